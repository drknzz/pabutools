/-
  C11 — Pabulib files parse to the election they describe and round-trip losslessly (row level).
-/
import PabuProofs.Lemmas.Pabulib
namespace Pabu.Pabulib

/-- writing a well-formed election and parsing the rows back yields the election in normal form -/
theorem parse_write {e : Election} (hw : WF e) : parseRows (writeRows e) = .ok (norm e) :=
  parseRows_writeRows hw

/-- the same through the `String` front end of the driver -/
theorem parse_write_strings {e : Election} (hw : WF e) : parse (write e) = .ok (norm e) := by
  have : ((writeRows e).map (fun r => r.map String.ofList)).map (fun r => r.map String.toList) = writeRows e := by
    rw [List.map_map]
    conv_rhs => rw [← List.map_id (writeRows e)]
    refine List.map_congr_left (fun r _ => ?_)
    rw [Function.comp_apply, List.map_map, id]
    conv_rhs => rw [← List.map_id r]
    exact List.map_congr_left (fun s _ => String.toList_ofList)
  rw [parse, write, this]
  exact parse_write hw

/-- repeating the round trip changes nothing further -/
theorem norm_idem {e : Election} (hw : WF e) : norm (norm e) = norm e := norm_norm hw

/-- the result of a round trip is again a well-formed election (limits in the parser's normal form) -/
theorem norm_wf {e : Election} (hw : WF e)
    (hN : normLimits e.vtype e.projects.length e.budget e.limits = e.limits) : WF (norm e) := wf_norm hw hN

/-- writing the result and parsing it again yields the same election: the second round trip is the identity -/
theorem round_trip_twice {e : Election} (hw : WF e)
    (hN : normLimits e.vtype e.projects.length e.budget e.limits = e.limits) :
    parseRows (writeRows (norm e)) = .ok (norm e) := by
  rw [parse_write (norm_wf hw hN), norm_idem hw]

/-- each PROJECTS row the writer makes reads back as exactly that project: name, exact cost, categories,
    targets, metadata (with the two derived columns) -/
theorem parse_describes_project {K : List Str} {np : Str × ProjData} (acc : Map ProjData)
    (hK : GoodHeader K np) (hw : WFProject np) (hfresh : aget np.1 acc = none) :
    parseProjectRow K (projectRow K np) acc = .ok (ains np.1 (normProj np).2 acc) :=
  parseProjectRow_projectRow acc hK hw hfresh

/-- each VOTES row the writer makes reads back as exactly that ballot (type, content, order / points) with
    its voter metadata and the `voter_id` the writer filled in -/
theorem parse_describes_vote {K : List Str} {iv : Nat × Vote} {vt : VoteType} {md : Map Str} {ps ps' : Map ProjData}
    (hK : GoodVHeader K iv.2) (hw : WFVote vt ps iv) (hvt : aget kVoteType md = some vt.name)
    (hps : ∀ n, (aget n ps).isSome = true → (aget n ps').isSome = true ∧ CleanName n) :
    parseVoteRow K (voteRow K iv) md ps' = .ok (normVote iv) :=
  parseVoteRow_voteRow hK hw hvt hps

theorem written_headers_good {e : Election} (hw : WF e) :
    (∀ np ∈ e.projects, GoodHeader (projectKeys e.projects) np) ∧
    (∀ iv ∈ enumFrom 0 e.votes, GoodVHeader (voteKeys e.votes) iv.2) := by
  refine ⟨fun np hnp => goodHeader_projectKeys hw.projects hnp, fun iv hiv => ?_⟩
  apply goodVHeader_voteKeys _ (mem_enumFrom_snd hiv)
  intro v hv
  obtain ⟨jv, hjv, rfl⟩ := exists_enumFrom 0 hv
  exact (hw.votes jv hjv).md

/-- the numbers: `mpq(str(q)) = q`, `int(str(i)) = i` for the model's codec -/
theorem number_codec (q : Rat) (i : Int) : readRat (showRat q) = .ok q ∧ readPyInt (showInt i) = .ok i :=
  ⟨readRat_showRat q, readPyInt_showInt i⟩

theorem limits_roundtrip {e : Election} (hw : WF e) :
    readLimits (metaOf e) = .ok e.limits ∧
    normLimits e.vtype e.projects.length e.budget (norm e).limits = (norm e).limits :=
  ⟨readLimits_metaOf hw, normLimits_idem _ _ _ _⟩

/-! non-vacuity: one well-formed election per vote type -/

def exProjects : Map ProjData :=
  [(s!!"10", { cost := 61 / 2, cats := [s!!"education", s!!"sport"], targets := [], md := [(s!!"name", s!!"Plac; \"Nowy\"")] }),
   (s!!"2", { cost := 20, cats := [], targets := [s!!"seniors"], md := [(s!!"name", s!!"B"), (s!!"votes", s!!"14")] }),
   (s!!"p 3", { cost := 0, cats := [], targets := [], md := [] })]

def exApproval : Election :=
  { vtype := .approval, budget := 100, md := [(s!!"country", s!!"Poland"), (s!!"edition", s!!"3")], projects := exProjects,
    votes := [{ ballot := .app [s!!"10", s!!"2"], md := [(s!!"sex", s!!"F"), (s!!"voter_id", s!!"5642")] },
              { ballot := .app [], md := [(s!!"district", s!!"x, y")] },
              { ballot := .app [s!!"10", s!!"2"], md := [] }],
    limits := { maxLen := some 2, maxCost := some 50 } }

def exCumulative : Election :=
  { vtype := .cumulative, budget := 1000 / 3, md := [], projects := exProjects,
    votes := [{ ballot := .card [(s!!"10", 1 / 3), (s!!"p 3", 2)], md := [(s!!"age", s!!"33")] },
              { ballot := .card [], md := [] }],
    limits := { maxScore := some 3, maxTotal := some 7 } }

def exScoring : Election :=
  { vtype := .scoring, budget := 51195, md := [(s!!"default_score", s!!"0")], projects := exProjects,
    votes := [{ ballot := .card [(s!!"2", -1), (s!!"p 3", 5 / 2)], md := [] }],
    limits := { minLen := some 0 } }

def exOrdinal : Election :=
  { vtype := .ordinal, budget := 7, md := [(s!!"scoring_fn", s!!"Borda")], projects := exProjects,
    votes := [{ ballot := .ord [s!!"p 3", s!!"10"], md := [(s!!"voter_id", s!!"v1")] },
              { ballot := .ord [s!!"2", s!!"p 3", s!!"10"], md := [(s!!"voter_id", s!!"v2")] }],
    limits := { minLen := some 3, maxLen := some 3 } }

theorem wf_exApproval : WF exApproval := by decide +kernel
theorem wf_exCumulative : WF exCumulative := by decide +kernel
theorem wf_exScoring : WF exScoring := by decide +kernel
theorem wf_exOrdinal : WF exOrdinal := by decide +kernel

example : parseRows (writeRows exApproval) = .ok (norm exApproval) := parse_write wf_exApproval
example : parseRows (writeRows exCumulative) = .ok (norm exCumulative) := parse_write wf_exCumulative
example : parseRows (writeRows exScoring) = .ok (norm exScoring) := parse_write wf_exScoring
example : parseRows (writeRows exOrdinal) = .ok (norm exOrdinal) := parse_write wf_exOrdinal
example : norm (norm exCumulative) = norm exCumulative := norm_idem wf_exCumulative
theorem exApproval_limits_normal :
    normLimits exApproval.vtype exApproval.projects.length exApproval.budget exApproval.limits = exApproval.limits := by
  decide +kernel

example : parseRows (writeRows (norm exApproval)) = .ok (norm exApproval) :=
  round_trip_twice wf_exApproval exApproval_limits_normal

example : ∀ np ∈ exApproval.projects, GoodHeader (projectKeys exApproval.projects) np :=
  (written_headers_good wf_exApproval).1

end Pabu.Pabulib
