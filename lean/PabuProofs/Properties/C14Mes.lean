/-
  C14, last clause — "Outcomes of the Method of Equal Shares with cost satisfaction always pass EJR-up-to-any and
  with cardinality satisfaction EJR-up-to-one, under the same satisfaction measure" — as theorems about the models
  `MES.run` (PabuModel/MES.lean) and `JR.definition` / `JR.Satisfies` (PabuModel/JR.lean, Lemmas/JR.lean).

  * `mesAt_EJR_any_cost`        Cost_Sat        ⇒ EJR up to any project, for the run at any per-voter budget from
                                the share `budget / n` on; `mes_EJR_any_cost` is the plain rule (the share itself)
  * `mesAt_EJR_cardinality`,
    `mes_EJR_cardinality`       Cardinality_Sat ⇒ EJR (no surplus term at all; zero-cost projects allowed)
  * `mesAt_EJR_one_cardinality`,
    `mes_EJR_one_cardinality`   Cardinality_Sat ⇒ EJR up to one project (corollary)
  * `mesAt_EJR_x`, `mes_EJR_x`  the statement `mes_EJR_x_FullStatement` of Properties/C14.lean, with the two
                                hypotheses on the tie-breaking function it lacks (and without its `P ≠ []`)
  * `mes_EJR_x_needs_order`     without those hypotheses `mes_EJR_x_FullStatement` is false
  Multiprofiles (entries with multiplicities) are covered; a list profile is the case of all multiplicities 1.
-/
import PabuProofs.Lemmas.MesEJR
import PabuProofs.Lemmas.Tie
import PabuProofs.Properties.C14
namespace Pabu.JR
open Pabu List Pabu.MES Pabu.MesEJR

/-! ### the profile as the run and as the checker see it -/

def appAt (P : List ((Pid → Bool) × Nat)) (i : Nat) (p : Pid) : Bool :=
  (P[i]?.map (fun e => e.1 p)).getD false

def entryAt (cost : Pid → Rat) (byCost : Bool) (P : List ((Pid → Bool) × Nat)) (i : Nat) : Voter × Nat :=
  ({ app := appAt P i, u := (mesVCtx cost byCost P).u i }, (mesVCtx cost byCost P).m i)

theorem approvalVoters_eq (cost : Pid → Rat) (byCost : Bool) (P : List ((Pid → Bool) × Nat)) :
    approvalVoters cost byCost P = (List.range P.length).map (entryAt cost byCost P) := by
  apply List.ext_getElem
  · simp [approvalVoters]
  · intro i h1 h2
    have hi : i < P.length := by simpa [approvalVoters] using h1
    simp [approvalVoters, entryAt, mesVCtx, List.getElem?_eq_getElem hi]
    funext p
    simp [appAt, List.getElem?_eq_getElem hi]

theorem mes_u_eq (cost : Pid → Rat) (byCost : Bool) (P : List ((Pid → Bool) × Nat)) (i : Nat) (p : Pid) :
    (mesVCtx cost byCost P).u i p = if appAt P i p = true then (if byCost = true then cost p else 1) else 0 := by
  unfold mesVCtx appAt
  simp only
  split <;> simp [*]

theorem mes_u_nonneg {cost : Pid → Rat} (byCost : Bool) (P : List ((Pid → Bool) × Nat)) (i : Nat) {p : Pid}
    (hc : 0 ≤ cost p) : 0 ≤ (mesVCtx cost byCost P).u i p := by
  rw [mes_u_eq]
  by_cases ha : appAt P i p = true
  · rw [if_pos ha]
    by_cases hb : byCost = true
    · rw [if_pos hb]; exact hc
    · rw [if_neg hb]; exact zero_le_one
  · rw [if_neg ha]

theorem numVoters_mes (cost : Pid → Rat) (byCost : Bool) (P : List ((Pid → Bool) × Nat)) :
    numVoters (mesVCtx cost byCost P) = sumNat P (fun e => e.2) := by
  have h1 : sumNat (approvalVoters cost byCost P) (fun e => e.2) = sumNat P (fun e => e.2) := sumNat_map _ P _
  rw [← h1, approvalVoters_eq, sumNat_map]
  rfl

theorem mes_mult (cost : Pid → Rat) (byCost : Bool) (P : List ((Pid → Bool) × Nat)) (hm : ∀ e ∈ P, 1 ≤ e.2) :
    ∀ i ∈ (mesVCtx cost byCost P).vs, 1 ≤ (mesVCtx cost byCost P).m i := by
  intro i hi
  have hi' : i < P.length := List.mem_range.mp hi
  have : (mesVCtx cost byCost P).m i = P[i].2 := by simp [mesVCtx, List.getElem?_eq_getElem hi']
  rw [this]
  exact hm _ (List.getElem_mem hi')

theorem mes_inputOK (I : Inst) (byCost : Bool) (P : List ((Pid → Bool) × Nat)) (hm : ∀ e ∈ P, 1 ≤ e.2)
    (hnd : I.projects.Nodup) (hcost : ∀ p ∈ I.projects, 0 ≤ I.cost p) :
    InputOK (mesVCtx I.cost byCost P) I [] :=
  ⟨mes_mult I.cost byCost P hm, hnd, by simp, by simp, hcost⟩

theorem groupSize_entries (cost : Pid → Rat) (byCost : Bool) (P : List ((Pid → Bool) × Nat)) (G : List Nat) :
    groupSize (G.map (entryAt cost byCost P)) = gsize (mesVCtx cost byCost P) G :=
  sumNat_map _ G _

/-! ### from groups of entries of the run to the definition -/

/-- It is enough to find, in every cohesive group of distinct entries (size = summed multiplicities), one entry that
    gets its due: then the outcome satisfies the EJR variant for all groups of individual voters. -/
theorem satisfies_of_entry_groups (I : Inst) (P : List ((Pid → Bool) × Nat)) (byCost : Bool) (up : UpTo)
    (W : List Pid) (hB : 0 ≤ I.budget) (hm : ∀ e ∈ P, 1 ≤ e.2)
    (key : ∀ G : List Nat, G <+ List.range P.length → G ≠ [] → ∀ T, T <+ I.projects → T ≠ [] →
      costOf I.cost T * ((sumNat P (fun e => e.2) : Nat) : Rat) ≤
        ((gsize (mesVCtx I.cost byCost P) G : Nat) : Rat) * I.budget →
      (∀ i ∈ G, ∀ p ∈ T, appAt P i p = true) →
      ∃ j ∈ G, sumOver T ((mesVCtx I.cost byCost P).u j) ≤ sumOver W ((mesVCtx I.cost byCost P).u j) +
        surplus up ((missing W T).map ((mesVCtx I.cost byCost P).u j))) :
    Satisfies (settingOf I byCost P) (expand (approvalVoters I.cost byCost P)) false .ejr up W := by
  have hpos : ∀ e ∈ approvalVoters I.cost byCost P, 1 ≤ e.2 := by
    intro e he
    obtain ⟨e0, he0, rfl⟩ := List.mem_map.mp he
    exact hm e0 he0
  rw [← checker_iff_satisfies (settingOf I byCost P) _ false .ejr up W hB hpos]
  unfold checker
  rw [forGroups_iff]
  intro D hD T hT hadm
  rw [approvalVoters_eq] at hD
  obtain ⟨G, hG, rfl⟩ := List.sublist_map_iff.mp hD
  have hmem : ∀ i ∈ G, (entryAt I.cost byCost P i).1 ∈ members (G.map (entryAt I.cost byCost P)) :=
    fun i hi => List.mem_map_of_mem (List.mem_map_of_mem hi)
  obtain ⟨⟨⟨hlarge, hSne⟩, hTne⟩, hun⟩ :
      ((largeEnough (settingOf I byCost P) (groupSize (G.map (entryAt I.cost byCost P))) T = true ∧
        (!(members (G.map (entryAt I.cost byCost P))).isEmpty) = true) ∧ (!T.isEmpty) = true) ∧
        unanimous (members (G.map (entryAt I.cost byCost P))) T = true := by
    simpa [adm, Bool.and_eq_true] using hadm
  have hGne : G ≠ [] := by
    rintro rfl
    simp [members] at hSne
  rw [largeEnough, decide_eq_true_eq, groupSize_entries] at hlarge
  obtain ⟨j, hj, hok⟩ := key G hG hGne T hT ((isEmpty_false_iff T).mp hTne) hlarge
    fun i hi p hp => (unanimous_iff _ _).mp hun _ (hmem i hi) p hp
  exact List.any_eq_true.mpr ⟨_, hmem j hj, (voterOk_iff _ _ _ _ _ _ _).mpr hok⟩

/-- `satisfies_of_entry_groups` in the form the bounds of Lemmas/MesEJR.lean take.  Any `b0` from the share on will
    do: a group large enough for `T` has `cost T ≤ |G| · budget / n ≤ |G| · b0`; and when `T ⊆ W` every member has its
    due, utilities being non-negative on `W`, so only `T ⊄ W` is left. -/
theorem satisfies_of_unbought (I : Inst) (P : List ((Pid → Bool) × Nat)) (byCost : Bool) (up : UpTo)
    (W : List Pid) (hB : 0 ≤ I.budget) (hm : ∀ e ∈ P, 1 ≤ e.2) (hnd : I.projects.Nodup)
    (hcost : ∀ p ∈ I.projects, 0 ≤ I.cost p) (hW : ∀ p ∈ W, p ∈ I.projects) (b0 : Rat)
    (hb : I.budget / (numVoters (mesVCtx I.cost byCost P) : Nat) ≤ b0)
    (key : ∀ G : List Nat, G.Nodup → (∀ i ∈ G, i ∈ (mesVCtx I.cost byCost P).vs) →
      0 < gsize (mesVCtx I.cost byCost P) G → ∀ T : List Pid, T.Nodup → (∀ p ∈ T, p ∈ I.projects) →
      costOf I.cost T ≤ ((gsize (mesVCtx I.cost byCost P) G : Nat) : Rat) * b0 →
      (∀ i ∈ G, ∀ p ∈ T, appAt P i p = true) → (∃ p ∈ T, p ∉ W) →
      ∃ j ∈ G, sumOver T ((mesVCtx I.cost byCost P).u j) ≤ sumOver W ((mesVCtx I.cost byCost P).u j) +
        surplus up ((missing W T).map ((mesVCtx I.cost byCost P).u j))) :
    Satisfies (settingOf I byCost P) (expand (approvalVoters I.cost byCost P)) false .ejr up W := by
  apply satisfies_of_entry_groups I P byCost up W hB hm
  intro G hG hGne T hT _ hlarge hun
  have hvs : ∀ i ∈ G, i ∈ (mesVCtx I.cost byCost P).vs := fun i hi => hG.subset hi
  obtain ⟨i0, hi0⟩ := List.exists_mem_of_ne_nil G hGne
  by_cases hmiss : missing W T = []
  · refine ⟨i0, hi0, ?_⟩
    rw [hmiss, List.map_nil, surplus_nil, add_zero]
    exact sumOver_le_of_subset (hnd.sublist hT) ((missing_nil_iff W T).mp hmiss)
      fun p hp => mes_u_nonneg byCost P i0 (hcost p (hW p hp))
  · have hmult := mes_mult I.cost byCost P hm
    have hn : (0 : Rat) < ((numVoters (mesVCtx I.cost byCost P) : Nat) : Rat) :=
      Nat.cast_pos.mpr (sumNat_pos _ _ (List.ne_nil_of_mem (hvs i0 hi0)) hmult)
    refine key G (List.nodup_range.sublist hG) hvs (sumNat_pos _ G hGne fun i hi => hmult i (hvs i hi))
      T (hnd.sublist hT) (fun p hp => hT.subset hp)
      (le_trans ?_ (mul_le_mul_of_nonneg_left hb (Nat.cast_nonneg _))) hun
      (by simpa [missing_nil_iff] using hmiss)
    rw [← mul_div_assoc, le_div_iff₀ hn, numVoters_mes]
    exact hlarge

/-! ### Cost_Sat: EJR up to any project -/

/-- **Cost_Sat, run at `b0 ≥ budget / n`: EJR up to any project** for the budget limit of the instance (positive
    costs; the tie-breaking function returns members of the tied set and a non-empty list on a non-empty set) -/
theorem mesAt_EJR_any_cost (I : Inst) (P : List ((Pid → Bool) × Nat)) (order : List Pid → Except Err (List Pid))
    (W : List Pid) (b0 : Rat) (hcost : ∀ p ∈ I.projects, 0 < I.cost p) (hB : 0 ≤ I.budget) (hnd : I.projects.Nodup)
    (hm : ∀ e ∈ P, 1 ≤ e.2)
    (hord : ∀ T l, order T = .ok l → ∀ x ∈ l, x ∈ T) (hne : ∀ T, T ≠ [] → order T ≠ .ok [])
    (hb : I.budget / (numVoters (mesVCtx I.cost true P) : Nat) ≤ b0)
    (hrun : runAt (mesVCtx I.cost true P) I [] order b0 = .ok W) :
    Satisfies (settingOf I true P) (expand (approvalVoters I.cost true P)) false .ejr .any W := by
  have hc0 : ∀ p ∈ I.projects, 0 ≤ I.cost p := fun p hp => (hcost p hp).le
  have hin := mes_inputOK I true P hm hnd hc0
  have hb0 : 0 ≤ b0 := (share_nonneg _ I hB).trans hb
  apply satisfies_of_unbought I P true .any W hB hm hnd hc0 (runAt_bounds hin hord hb0 hrun).2.2.2 b0 hb
  intro G hGnd hvs hg T _ hTsub hcoh hun hmiss
  have huT : ∀ i ∈ G, ∀ p ∈ T, (mesVCtx I.cost true P).u i p = I.cost p := fun i hi p hp => by
    rw [mes_u_eq, if_pos (hun i hi p hp), if_pos rfl]
  -- the cheapest project of `T \ W`: the one the surplus term speaks about
  obtain ⟨c, hcT, hcW, hcpool, _, hcmin⟩ := exists_cheapest_missing hin.mult hord hrun hvs hg hTsub
    (fun i hi p hp => huT i hi p hp ▸ hcost p (hTsub p hp)) hmiss
  obtain ⟨j, hj, hlt⟩ := runAt_cost_bound hin hord hne hb0 hrun G hGnd hvs hg T
    (fun p hp => hc0 p (hTsub p hp)) hcoh (fun i _ p hp => mes_u_nonneg true P i (hc0 p hp)) huT c hcT
    hcpool hcW
  refine ⟨j, hj, ?_⟩
  have hs : surplus .any ((missing W T).map ((mesVCtx I.cost true P).u j)) = I.cost c := by
    show (minRat _).getD 0 = I.cost c
    have hcm : c ∈ missing W T := List.mem_filter.mpr ⟨hcT, by simpa using hcW⟩
    rw [minRat_eq_some (v := I.cost c) (List.mem_map.mpr ⟨c, hcm, huT j hj c hcT⟩)]
    · rfl
    · intro x hx
      obtain ⟨p, hp, rfl⟩ := List.mem_map.mp hx
      rw [huT j hj p (List.mem_of_mem_filter hp)]
      exact hcmin p (List.mem_of_mem_filter hp) (by simpa using (List.mem_filter.mp hp).2)
  have hsT : sumOver T ((mesVCtx I.cost true P).u j) = costOf I.cost T := sumOver_congr (h := huT j hj)
  rw [hs, hsT]
  exact (sub_lt_iff_lt_add.mp hlt).le

/-- **Equal Shares with Cost_Sat satisfies EJR up to any project** -/
theorem mes_EJR_any_cost (I : Inst) (P : List ((Pid → Bool) × Nat)) (order : List Pid → Except Err (List Pid))
    (W : List Pid) (hcost : ∀ p ∈ I.projects, 0 < I.cost p) (hB : 0 ≤ I.budget) (hnd : I.projects.Nodup)
    (hm : ∀ e ∈ P, 1 ≤ e.2)
    (hord : ∀ T l, order T = .ok l → ∀ x ∈ l, x ∈ T) (hne : ∀ T, T ≠ [] → order T ≠ .ok [])
    (hrun : MES.run (mesVCtx I.cost true P) I [] order = .ok W) :
    Satisfies (settingOf I true P) (expand (approvalVoters I.cost true P)) false .ejr .any W :=
  mesAt_EJR_any_cost I P order W _ hcost hB hnd hm hord hne le_rfl hrun

/-! ### Cardinality_Sat: EJR, hence EJR up to one project -/

/-- **Cardinality_Sat, run at `b0 ≥ budget / n`: EJR** for the budget limit of the instance — with no surplus term
    (costs ≥ 0; supported zero-cost projects are always selected) -/
theorem mesAt_EJR_cardinality (I : Inst) (P : List ((Pid → Bool) × Nat)) (order : List Pid → Except Err (List Pid))
    (W : List Pid) (b0 : Rat) (hcost : ∀ p ∈ I.projects, 0 ≤ I.cost p) (hB : 0 ≤ I.budget) (hnd : I.projects.Nodup)
    (hm : ∀ e ∈ P, 1 ≤ e.2)
    (hord : ∀ T l, order T = .ok l → ∀ x ∈ l, x ∈ T) (hne : ∀ T, T ≠ [] → order T ≠ .ok [])
    (hb : I.budget / (numVoters (mesVCtx I.cost false P) : Nat) ≤ b0)
    (hrun : runAt (mesVCtx I.cost false P) I [] order b0 = .ok W) :
    Satisfies (settingOf I false P) (expand (approvalVoters I.cost false P)) false .ejr .none W := by
  have hin := mes_inputOK I false P hm hnd hcost
  have hb0 : 0 ≤ b0 := (share_nonneg _ I hB).trans hb
  apply satisfies_of_unbought I P false .none W hB hm hnd hcost (runAt_bounds hin hord hb0 hrun).2.2.2 b0 hb
  intro G hGnd hvs hg T hTnd hTsub hcoh hun hmiss
  have hu : ∀ i ∈ G, ∀ p, (mesVCtx I.cost false P).u i p = if appAt P i p = true then 1 else 0 :=
    fun i _ p => by rw [mes_u_eq]; simp
  obtain ⟨j, hj, hle⟩ := runAt_card_bound hin hord hne hb0 hrun G hGnd hvs hg T hTnd hTsub hcoh
    (appAt P) hu hun hmiss
  have hsT : sumOver T ((mesVCtx I.cost false P).u j) = (T.length : Rat) := by
    rw [sumOver_congr (h := fun p hp => (hu j hj p).trans (if_pos (hun j hj p hp))), sumOver_const, mul_one]
  exact ⟨j, hj, (hsT.trans_le hle).trans_eq (add_zero _).symm⟩

/-- **Equal Shares with Cardinality_Sat satisfies EJR** -/
theorem mes_EJR_cardinality (I : Inst) (P : List ((Pid → Bool) × Nat)) (order : List Pid → Except Err (List Pid))
    (W : List Pid) (hcost : ∀ p ∈ I.projects, 0 ≤ I.cost p) (hB : 0 ≤ I.budget) (hnd : I.projects.Nodup)
    (hm : ∀ e ∈ P, 1 ≤ e.2)
    (hord : ∀ T l, order T = .ok l → ∀ x ∈ l, x ∈ T) (hne : ∀ T, T ≠ [] → order T ≠ .ok [])
    (hrun : MES.run (mesVCtx I.cost false P) I [] order = .ok W) :
    Satisfies (settingOf I false P) (expand (approvalVoters I.cost false P)) false .ejr .none W :=
  mesAt_EJR_cardinality I P order W _ hcost hB hnd hm hord hne le_rfl hrun

theorem approvalVoters_nonneg (cost : Pid → Rat) (P : List ((Pid → Bool) × Nat)) :
    ∀ v ∈ expand (approvalVoters cost false P), ∀ p, 0 ≤ v.u p := by
  intro v hv p
  obtain ⟨e, he, rfl⟩ := exists_entry_of_mem_expand hv
  obtain ⟨e0, _, rfl⟩ := List.mem_map.mp he
  show 0 ≤ (if e0.1 p = true then (if false = true then cost p else 1) else 0 : Rat)
  by_cases ha : e0.1 p = true
  · rw [if_pos ha, if_neg Bool.false_ne_true]; exact zero_le_one
  · rw [if_neg ha]

theorem card_any_one_of_plain (I : Inst) (P : List ((Pid → Bool) × Nat)) (W : List Pid)
    (h : Satisfies (settingOf I false P) (expand (approvalVoters I.cost false P)) false .ejr .none W) :
    Satisfies (settingOf I false P) (expand (approvalVoters I.cost false P)) false .ejr .any W ∧
    Satisfies (settingOf I false P) (expand (approvalVoters I.cost false P)) false .ejr .one W := by
  have hany := plain_imp_any (settingOf I false P) _ false .ejr W (approvalVoters_nonneg I.cost P)
    (fun _ => zero_le_one) h
  exact ⟨hany, any_imp_one (settingOf I false P) _ false .ejr W hany⟩

theorem mesAt_EJR_one_cardinality (I : Inst) (P : List ((Pid → Bool) × Nat))
    (order : List Pid → Except Err (List Pid))
    (W : List Pid) (b0 : Rat) (hcost : ∀ p ∈ I.projects, 0 ≤ I.cost p) (hB : 0 ≤ I.budget) (hnd : I.projects.Nodup)
    (hm : ∀ e ∈ P, 1 ≤ e.2)
    (hord : ∀ T l, order T = .ok l → ∀ x ∈ l, x ∈ T) (hne : ∀ T, T ≠ [] → order T ≠ .ok [])
    (hb : I.budget / (numVoters (mesVCtx I.cost false P) : Nat) ≤ b0)
    (hrun : runAt (mesVCtx I.cost false P) I [] order b0 = .ok W) :
    Satisfies (settingOf I false P) (expand (approvalVoters I.cost false P)) false .ejr .any W ∧
    Satisfies (settingOf I false P) (expand (approvalVoters I.cost false P)) false .ejr .one W :=
  card_any_one_of_plain I P W (mesAt_EJR_cardinality I P order W b0 hcost hB hnd hm hord hne hb hrun)

/-- **Equal Shares with Cardinality_Sat satisfies EJR up to one project** (and up to any project). -/
theorem mes_EJR_one_cardinality (I : Inst) (P : List ((Pid → Bool) × Nat)) (order : List Pid → Except Err (List Pid))
    (W : List Pid) (hcost : ∀ p ∈ I.projects, 0 ≤ I.cost p) (hB : 0 ≤ I.budget) (hnd : I.projects.Nodup)
    (hm : ∀ e ∈ P, 1 ≤ e.2)
    (hord : ∀ T l, order T = .ok l → ∀ x ∈ l, x ∈ T) (hne : ∀ T, T ≠ [] → order T ≠ .ok [])
    (hrun : MES.run (mesVCtx I.cost false P) I [] order = .ok W) :
    Satisfies (settingOf I false P) (expand (approvalVoters I.cost false P)) false .ejr .any W ∧
    Satisfies (settingOf I false P) (expand (approvalVoters I.cost false P)) false .ejr .one W :=
  mesAt_EJR_one_cardinality I P order W _ hcost hB hnd hm hord hne le_rfl hrun

/-! ### the statement of Properties/C14.lean -/

theorem mesAt_EJR_x (I : Inst) (P : List ((Pid → Bool) × Nat)) (order : List Pid → Except Err (List Pid))
    (W : List Pid) (byCost : Bool) (b0 : Rat)
    (hcost : ∀ p ∈ I.projects, 0 < I.cost p) (hB : 0 ≤ I.budget) (hnd : I.projects.Nodup)
    (hm : ∀ e ∈ P, 1 ≤ e.2)
    (hord : ∀ T l, order T = .ok l → ∀ x ∈ l, x ∈ T) (hne : ∀ T, T ≠ [] → order T ≠ .ok [])
    (hb : I.budget / (numVoters (mesVCtx I.cost byCost P) : Nat) ≤ b0)
    (hrun : runAt (mesVCtx I.cost byCost P) I [] order b0 = .ok W) :
    Satisfies (settingOf I byCost P) (expand (approvalVoters I.cost byCost P)) false .ejr
      (if byCost then .any else .one) W := by
  cases byCost with
  | true => exact mesAt_EJR_any_cost I P order W b0 hcost hB hnd hm hord hne hb hrun
  | false =>
    exact (mesAt_EJR_one_cardinality I P order W b0 (fun p hp => le_of_lt (hcost p hp)) hB hnd hm
      hord hne hb hrun).2

/-- `mes_EJR_x_FullStatement` with the hypotheses on the tie-breaking function made explicit -/
theorem mes_EJR_x (I : Inst) (P : List ((Pid → Bool) × Nat)) (order : List Pid → Except Err (List Pid))
    (W : List Pid) (byCost : Bool)
    (hcost : ∀ p ∈ I.projects, 0 < I.cost p) (hB : 0 < I.budget) (hnd : I.projects.Nodup)
    (hm : ∀ e ∈ P, 1 ≤ e.2)
    (hord : ∀ T l, order T = .ok l → ∀ x ∈ l, x ∈ T) (hne : ∀ T, T ≠ [] → order T ≠ .ok [])
    (hrun : MES.run (mesVCtx I.cost byCost P) I [] order = .ok W) :
    Satisfies (settingOf I byCost P) (expand (approvalVoters I.cost byCost P)) false .ejr
      (if byCost then .any else .one) W :=
  mesAt_EJR_x I P order W byCost _ hcost hB.le hnd hm hord hne le_rfl hrun

/-- every tie-breaking rule meets the two hypotheses (`ht` is not used: `refuse` answers a tie with an error, never
    with a list, so it meets them as well) -/
theorem tie_order_ok (t : Tie) (cost : Pid → Rat) (score : Pid → Nat) (ht : t ≠ .refuse) :
    (∀ T l, t.order cost score T = .ok l → ∀ x ∈ l, x ∈ T) ∧
    (∀ T, T ≠ [] → t.order cost score T ≠ .ok []) :=
  have _ := ht
  ⟨Tie.order_mem t cost score, Tie.order_ne_nil t cost score⟩

/-! ### the hypotheses are satisfiable, and the two on the tie-breaking function are needed -/

/-- two voters, three projects: voter 0 approves everything, voter 1 only the expensive project 2 -/
def mesExI : Inst := ⟨[0, 1, 2], fun p => if p = 2 then 3 else 1, 4⟩
def mesExP : List ((Pid → Bool) × Nat) := [(fun _ => true, 1), (fun p => p == 2, 1)]
def mesExOrder : List Pid → Except Err (List Pid) := Tie.lexico.order mesExI.cost (fun _ => 0)

theorem mesEx_hyps :
    (∀ p ∈ mesExI.projects, 0 < mesExI.cost p) ∧ 0 < mesExI.budget ∧ mesExI.projects.Nodup ∧
    (∀ e ∈ mesExP, 1 ≤ e.2) ∧ (∀ T l, mesExOrder T = .ok l → ∀ x ∈ l, x ∈ T) ∧
    (∀ T, T ≠ [] → mesExOrder T ≠ .ok []) := by
  refine ⟨?_, by norm_num [mesExI], by decide, ?_, (tie_order_ok .lexico _ _ (by decide)).1,
    (tie_order_ok .lexico _ _ (by decide)).2⟩
  · intro p _
    show (0 : Rat) < if p = 2 then 3 else 1
    split <;> norm_num
  · intro e he
    simp only [mesExP, List.mem_cons, List.not_mem_nil, or_false] at he
    rcases he with rfl | rfl <;> simp

/-- with Cost_Sat the run first buys the jointly supported project 2 (price 1/2 per unit), after which voter 0 can
    afford neither 0 nor 1; with Cardinality_Sat it buys 0 and 1 -/
theorem mesEx_run :
    MES.run (mesVCtx mesExI.cost true mesExP) mesExI [] mesExOrder = .ok [2] ∧
    MES.run (mesVCtx mesExI.cost false mesExP) mesExI [] mesExOrder = .ok [0, 1] := by
  constructor <;> decide +kernel

/-- voter 0 alone is `{0, 1}`-cohesive (cost 2, 2·2 ≤ 1·4), and `{0, 1}` is disjoint from the Cost_Sat outcome `[2]`:
    the theorem is used on a genuinely cohesive group whose projects were not bought -/
theorem mesEx_cohesive (byCost : Bool) :
    ∃ S T, S <+ expand (approvalVoters mesExI.cost byCost mesExP) ∧ T <+ (settingOf mesExI byCost mesExP).projects ∧
      AdmP (settingOf mesExI byCost mesExP) false .ejr S T ∧ T = [0, 1] := by
  refine ⟨(expand (approvalVoters mesExI.cost byCost mesExP)).take 1, [0, 1], List.take_sublist _ _, ?_, ?_, rfl⟩
  · show [0, 1] <+ [0, 1, 2]
    decide
  · refine ⟨?_, ?_, by simp, Or.inr ?_⟩
    · show costOf mesExI.cost [0, 1] * ((sumNat mesExP (fun e => e.2) : Nat) : Rat) ≤ _
      norm_num [costOf, sumOver, sumNat, mesExI, mesExP, approvalVoters, expand, settingOf]
    · simp [approvalVoters, expand, mesExP]
    · intro v hv p _
      simp [approvalVoters, expand, mesExP] at hv
      subst hv
      rfl

theorem mesEx_conclusion :
    Satisfies (settingOf mesExI true mesExP) (expand (approvalVoters mesExI.cost true mesExP)) false .ejr .any [2] ∧
    Satisfies (settingOf mesExI false mesExP) (expand (approvalVoters mesExI.cost false mesExP)) false .ejr .none
      [0, 1] := by
  obtain ⟨h1, h2, h3, h4, h5, h6⟩ := mesEx_hyps
  exact ⟨mes_EJR_any_cost _ _ _ _ h1 (le_of_lt h2) h3 h4 h5 h6 mesEx_run.1,
    mes_EJR_cardinality _ _ _ _ (fun p hp => le_of_lt (h1 p hp)) (le_of_lt h2) h3 h4 h5 h6 mesEx_run.2⟩

/-- `mes_EJR_x_FullStatement` (Properties/C14.lean) quantifies over every tie-breaking function; it is false for one
    that answers a tie with the empty list: one voter approving two unit-cost projects, budget 2 — the run stops with
    nothing bought although the voter is `{0, 1}`-cohesive.  Hence the two hypotheses `hord`, `hne` of `mes_EJR_x`. -/
theorem mes_EJR_x_needs_order : ¬ mes_EJR_x_FullStatement := by
  intro h
  have hs := h ⟨[0, 1], fun _ => 1, 2⟩ [(fun _ => true, 1)] (fun _ => .ok []) [] false
    (by intro p _; norm_num) (by norm_num) (by decide) (by intro e he; simp at he; subst he; simp) (by simp)
    (by decide +kernel)
  rw [← checker_iff_satisfies _ _ _ _ _ _ (by norm_num [settingOf])
    (by intro e he; simp [approvalVoters] at he; subst he; simp)] at hs
  have hc : checker (settingOf ⟨[0, 1], fun _ => 1, 2⟩ false [(fun _ => true, 1)])
      (approvalVoters (fun _ => 1) false [(fun _ => true, 1)]) false .ejr .one [] = false := by decide +kernel
  have hs' : checker (settingOf ⟨[0, 1], fun _ => 1, 2⟩ false [(fun _ => true, 1)])
      (approvalVoters (fun _ => 1) false [(fun _ => true, 1)]) false .ejr .one [] = true := hs
  rw [hc] at hs'
  cases hs'

end Pabu.JR
