/-
  C12 (search) — the mixed-integer program `priceable()` hands to the solver ENCODES the definition of a (stable) price
  system, up to the limits of its big-M constant `INF = 10·budget`, which are stated exactly:

   * `encoding_sound`        every point of the program (x ∈ {0,1}) is an exact price system for W = {c | x_c = 1}:
                             `Price.Exact`, hence accepted by the validator; W is feasible, exhaustive when asked, equal to
                             the given allocation when one is given;
   * `encoding_complete_partial`  an exact price system whose numbers fit under the big-M constants is a point of the program
                             with exactly that x, b, p;
   * `encoding_complete`     when no selected project has more than 10 supporters (in particular: at most 10 voters) every
                             priceable allocation is found: the voter budget can be capped at the budget limit;
   * `encoding_complete_FullStatement_false`  without such a bound the statement is FALSE for the code's `INF`
                             (13 voters, costs 1 and 10, budget 11): `priceable()` answers "infeasible" for a priceable
                             allocation; `expensive_project_counterexample`: so it does whenever some unselected project costs
                             more than 10 × the budget limit;
   * `fractional_budget_counterexample`  the integrality hypothesis of `WellFormed` is needed (`XFrac`: budget 3/2);
   * `searched_iff_given`, `nonEmpty_clause_*`  what the "prevent empty allocation" constraint adds.

  Only the solver itself (CBC: does it decide feasibility of THIS program correctly) stays trusted; that the program
  of PabuModel/PriceMIP.lean is the one the library builds is checked constraint by constraint by harness/props/C12_mip.py.
-/
import PabuProofs.Lemmas.PriceMIP
import PabuProofs.Properties.C12
namespace Pabu.PriceMIP
open Price

/-- what the encoding assumes about the election and the allocation (C12's quantifier: integer costs and budget) -/
structure WellFormed (X : Input) (exhaustive : Bool) : Prop where
  within : WithinInstance X
  costNonneg : ∀ c ∈ X.C, 0 ≤ X.cost c
  /-- the program writes `total + cost(c) > budget` as `≥ budget + 1` -/
  intBudget : exhaustive = true → ∃ k : Int, X.budget = k
  intCost : exhaustive = true → ∀ c ∈ X.C, ∃ k : Int, X.cost c = k
  budgetPos : exhaustive = true → 1 ≤ X.budget
  /-- the second inequality of C3 needs `cost(c) ≤ INF` for unselected projects -/
  affordable : ∀ c ∈ X.NW, X.cost c ≤ 10 * X.budget

/-- the call asks about this price system: the allocation is searched or given as `X.W`, the voter budget is free or fixed
    to `X.b`, the payments are free or fixed to those of `X` -/
structure Asks (cfg : Cfg) (X : Input) : Prop where
  given : ∀ W', cfg.given = some W' → W' = X.W
  fixB : ∀ vb, cfg.fixB = some vb → vb = X.b
  fixP : ∀ pf, cfg.fixP = some pf → ∀ ai ∈ voters (ofInput X), ∀ c ∈ X.C, pf ai.2 c = (pointOf X).p ai.2 c

namespace WellFormed

theorem of_nat {X : Input} (e : Bool) (k : Pid → Nat) (B : Nat) (hW : WithinInstance X)
    (hk : ∀ c, X.cost c = k c) (hB : X.budget = B) (hB1 : 1 ≤ B) (haff : ∀ c ∈ X.NW, k c ≤ 10 * B) : WellFormed X e :=
  { within := hW
    costNonneg := fun c _ => hk c ▸ Nat.cast_nonneg _
    intBudget := fun _ => ⟨B, by rw [hB, Int.cast_natCast]⟩
    intCost := fun _ c _ => ⟨k c, by rw [hk c, Int.cast_natCast]⟩
    budgetPos := fun _ => by rw [hB]; exact_mod_cast hB1
    affordable := fun c hc => by rw [hk c, hB]; exact_mod_cast haff c hc }

theorem budget_nonneg {X : Input} {e : Bool} (wf : WellFormed X e) (h : X.total ≤ X.budget) : 0 ≤ X.budget :=
  le_trans (total_nonneg X wf.within wf.costNonneg) h

theorem capB {X : Input} {e : Bool} (wf : WellFormed X e) : WellFormed (PriceMIP.capB X) e :=
  ⟨wf.within, wf.costNonneg, wf.intBudget, wf.intCost, wf.budgetPos, wf.affordable⟩

end WellFormed

namespace Asks

/-- `ofInput` and the payments of `pointOf` do not read `b`, so `asks.fixP` applies to the capped price system as it stands -/
theorem capB {cfg : Cfg} {X : Input} (asks : Asks cfg X) (hfb : cfg.fixB = none) : Asks cfg (PriceMIP.capB X) :=
  ⟨asks.given, fun vb h => (by rw [hfb] at h; cases h), asks.fixP⟩

end Asks

/-- SOUNDNESS.  A point that satisfies the variable domains and all constraints of the program is an exact (stable) price
    system for `W = {c ∈ C | x_c = 1}` with voter budget `b` and payments `p`; the validator accepts it; `W` is feasible,
    exhaustive when asked, the given allocation when one was given; a fixed voter budget is respected. -/
theorem encoding_sound (E : Elec) (cfg : Cfg) (pt : Point) (h : sat E cfg pt = true) :
    Exact (toInput E pt) cfg.stable cfg.exhaustive ∧
    validate (toInput E pt) cfg.stable cfg.exhaustive = true ∧
    (toInput E pt).total ≤ E.budget ∧
    (cfg.exhaustive = true → ∀ c ∈ (toInput E pt).NW, ¬ ((toInput E pt).total + E.cost c ≤ E.budget)) ∧
    (∀ c ∈ E.C, pt.x c = 0 ∨ pt.x c = 1) ∧
    (∀ W, cfg.given = some W → (toInput E pt).W = E.C.filter (fun c => W.contains c)) ∧
    (∀ vb, cfg.fixB = some vb → (toInput E pt).b = vb) := by
  have F := (sat_iff E cfg pt).mp h
  have Ex := feasible_exact E cfg pt F
  exact ⟨Ex, validate_complete _ _ _ Ex, Ex.feasible, Ex.exhaust, F.bnd_x,
    fun W hW => toInput_W_of_fixx E pt W (F.fixx W hW), F.fixb⟩

/-- COMPLETENESS, bounds explicit.  An exact price system for a well-formed election whose supporters' leftovers (plain) /
    stability amounts (stable) of every SELECTED project sum to at most `cost + 10·budget` is a point of the program, with
    `x` the indicator of `W`, `b` the voter budget and `p` the payments. -/
theorem encoding_complete_partial (X : Input) (cfg : Cfg) (Ex : Exact X cfg.stable cfg.exhaustive)
    (wf : WellFormed X cfg.exhaustive) (asks : Asks cfg X) (hb0 : 0 ≤ X.b)
    (hne : cfg.exhaustive = false → cfg.given = none → X.budget ≤ (X.N.length : Rat) * X.b)
    (hbd : Bounded X cfg.stable) :
    sat (ofInput X) cfg (pointOf X) = true ∧
    (∀ c, (pointOf X).x c = if X.W.contains c then 1 else 0) ∧ (pointOf X).b = X.b := by
  refine ⟨(sat_iff _ _ _).mpr ?_, fun _ => rfl, rfl⟩
  exact exact_feasible X cfg Ex wf.within wf.costNonneg hb0 (fun he => ⟨wf.intBudget he, wf.intCost he⟩) wf.budgetPos
    wf.affordable hne hbd asks.given asks.fixB asks.fixP

/-- COMPLETENESS for elections in which no selected project has more than 10 supporters: whenever `W` has an exact price
    system (with `b·n ≥ budget` in the searched non-exhaustive mode, where the program demands it), the program has a point
    with exactly that `x` and those payments — the voter budget capped at the budget limit. -/
theorem encoding_complete (X : Input) (cfg : Cfg) (Ex : Exact X cfg.stable cfg.exhaustive)
    (wf : WellFormed X cfg.exhaustive) (asks : Asks cfg X) (hfb : cfg.fixB = none) (hb0 : 0 ≤ X.b)
    (hne : cfg.exhaustive = false → cfg.given = none → X.budget ≤ (X.N.length : Rat) * X.b)
    (hsmall : ∀ c ∈ X.W, ((X.N.filter (fun v => v.app c)).length : Rat) ≤ 10) :
    ∃ pt, sat (ofInput X) cfg pt = true ∧ (∀ c, pt.x c = if X.W.contains c then 1 else 0) ∧
      (∀ i, pt.p i = (pointOf X).p i) ∧ pt.b ≤ X.budget := by
  have hbud0 := wf.budget_nonneg Ex.feasible
  have h := encoding_complete_partial (capB X) cfg (capB_exact X cfg.stable cfg.exhaustive Ex wf.within) wf.capB (asks.capB hfb)
    (capB_b_nonneg X hb0 hbud0) (fun he hg => capB_nonEmpty X hbud0 (hne he hg))
    (capB_bounded X cfg.stable cfg.exhaustive Ex wf.within wf.costNonneg hb0 hsmall)
  exact ⟨pointOf (capB X), h.1, h.2.1, fun _ => rfl, capB_b_le_budget X⟩

/-- in particular for every election with at most 10 voters (C12's quantifier has at most 4) -/
theorem encoding_complete_small_profile (X : Input) (cfg : Cfg) (Ex : Exact X cfg.stable cfg.exhaustive)
    (wf : WellFormed X cfg.exhaustive) (asks : Asks cfg X) (hfb : cfg.fixB = none) (hb0 : 0 ≤ X.b)
    (hne : cfg.exhaustive = false → cfg.given = none → X.budget ≤ (X.N.length : Rat) * X.b)
    (hn : X.N.length ≤ 10) :
    ∃ pt, sat (ofInput X) cfg pt = true ∧ (∀ c, pt.x c = if X.W.contains c then 1 else 0) ∧
      (∀ i, pt.p i = (pointOf X).p i) ∧ pt.b ≤ X.budget := by
  apply encoding_complete X cfg Ex wf asks hfb hb0 hne
  intro c _
  have h1 : (X.N.filter (fun v => v.app c)).length ≤ X.N.length := List.length_filter_le _ _
  have h2 : (X.N.filter (fun v => v.app c)).length ≤ 10 := le_trans h1 hn
  exact_mod_cast h2

/-- search = definition, for small profiles: with the allocation `W` given, the program has a point exactly when `W` has a
    (stable) price system -/
theorem encoding_iff_small (X : Input) (cfg : Cfg) (wf : WellFormed X cfg.exhaustive) (hg : cfg.given = some X.W)
    (hfb : cfg.fixB = none) (hfp : cfg.fixP = none) (hN : X.N ≠ []) (hn : X.N.length ≤ 10) :
    (∃ pt, sat (ofInput X) cfg pt = true) ↔
    (∃ (b : Rat) (pay : Nat → Pid → Rat),
      Exact { X with b := b, N := (voters (ofInput X)).map (fun ai => { app := ai.1, pay := pay ai.2 }) } cfg.stable cfg.exhaustive) := by
  constructor
  · rintro ⟨pt, h⟩
    have hs := encoding_sound (ofInput X) cfg pt h
    refine ⟨pt.b, pt.p, ?_⟩
    have hW : (toInput (ofInput X) pt).W = X.W := by
      rw [hs.2.2.2.2.2.1 X.W hg]
      exact wf.within.symm
    have : toInput (ofInput X) pt
        = { X with b := pt.b, N := (voters (ofInput X)).map (fun ai => { app := ai.1, pay := pt.p ai.2 }) } := by
      show ({ C := X.C, cost := X.cost, budget := X.budget, W := (toInput (ofInput X) pt).W, N := _, b := pt.b } : Input) = _
      rw [hW]
    rw [← this]
    exact hs.1
  · rintro ⟨b, pay, Ex⟩
    let Y : Input := { X with b := b, N := (voters (ofInput X)).map (fun ai => { app := ai.1, pay := pay ai.2 }) }
    have happs : (ofInput Y) = ofInput X := by
      show ({ C := X.C, cost := X.cost, budget := X.budget, apps := Y.N.map (fun v => v.app) } : Elec) = _
      have : Y.N.map (fun v => v.app) = X.N.map (fun v => v.app) := by
        show ((voters (ofInput X)).map (fun ai => ({ app := ai.1, pay := pay ai.2 } : PVoter))).map (fun v => v.app) = _
        rw [List.map_map]
        show (voters (ofInput X)).map (fun ai => ai.1) = _
        unfold voters ofInput
        simp
      rw [this]; rfl
    have hlen : Y.N.length = X.N.length := by
      show ((voters (ofInput X)).map _).length = _
      rw [List.length_map]; unfold voters ofInput; simp
    have hYN : Y.N ≠ [] := by
      intro h0
      have : Y.N.length = 0 := by rw [h0]; rfl
      rw [hlen] at this
      exact hN (List.length_eq_zero_iff.mp this)
    have wfY : WellFormed Y cfg.exhaustive :=
      { within := wf.within, costNonneg := wf.costNonneg, intBudget := wf.intBudget, intCost := wf.intCost,
        budgetPos := wf.budgetPos, affordable := wf.affordable }
    have asksY : Asks cfg Y :=
      { given := fun W' h => (by rw [hg] at h; cases h; rfl), fixB := fun vb h => (by rw [hfb] at h; cases h),
        fixP := fun pf h => (by rw [hfp] at h; cases h) }
    obtain ⟨pt, hpt, _⟩ := encoding_complete_small_profile Y cfg Ex wfY asksY hfb
      (exact_b_nonneg Y _ _ Ex hYN) (fun _ h => by rw [hg] at h; cases h) (by rw [hlen]; exact hn)
    rw [happs] at hpt
    exact ⟨pt, hpt⟩

/-! ### the unbounded statement is false for `INF = 10·budget` -/

/-- completeness without a bound on the number of supporters (everything else as in `encoding_complete`) -/
def encoding_complete_FullStatement : Prop :=
  ∀ (X : Input) (cfg : Cfg), Exact X cfg.stable cfg.exhaustive → WellFormed X cfg.exhaustive → Asks cfg X →
    cfg.fixB = none → 0 ≤ X.b → (cfg.exhaustive = false → cfg.given = none → X.budget ≤ (X.N.length : Rat) * X.b) →
    ∃ pt, sat (ofInput X) cfg pt = true ∧ ∀ c, pt.x c = if X.W.contains c then 1 else 0

def vD : PVoter := { app := fun c => c == 1, pay := fun c => if c = 1 then 10 else 0 }
def vA1 : PVoter := { app := fun c => c == 0, pay := fun c => if c = 0 then 1 else 0 }
def vA0 : PVoter := { app := fun c => c == 0, pay := fun _ => 0 }

/-- 13 voters, projects 0 (cost 1) and 1 (cost 10), budget 11, both selected, voter budget 10: `vD` is the only supporter of
    project 1 and pays for it, `vA1` supports project 0 and pays for it, eleven more supporters of project 0 (`vA0`) pay nothing -/
def X13 : Input :=
  { C := [0, 1], cost := fun c => if c = 0 then 1 else 10, budget := 11, W := [0, 1],
    N := [vD, vA1, vA0, vA0, vA0, vA0, vA0, vA0, vA0, vA0, vA0, vA0, vA0], b := 10 }

theorem X13_exact (s e : Bool) : Exact X13 s e := by
  rw [← exact_iff]
  cases s <;> cases e <;> decide +kernel

theorem X13_wellFormed (e : Bool) : WellFormed X13 e :=
  WellFormed.of_nat e (fun c => if c = 0 then 1 else 10) 11 (by unfold WithinInstance; decide)
    (fun c => by show (if c = 0 then (1 : Rat) else 10) = ((if c = 0 then 1 else 10 : Nat) : Rat); split <;> rfl)
    rfl (by decide) (by decide)

/-- `[0, 1]` is a price system for `X13`, but the program `priceable()` builds for it has NO point (the supporters of project 0 keep 12·10 − 1 = 119 > 1 + 110):
    the library answers "infeasible" for a priceable allocation (replayed on the real `priceable()`: INFEASIBLE in all
    four modes, and in the searched exhaustive mode). -/
theorem X13_infeasible (s e : Bool) (given : Option (List Pid)) (pt : Point)
    (h : sat (ofInput X13) { stable := s, exhaustive := e, given := given } pt = true)
    (hx0 : pt.x 0 = 1) (hx1 : pt.x 1 = 1) : False := by
  have F := (sat_iff _ _ _).mp h
  have hb := bigM_selected_bound (ofInput X13) _ pt F (by decide) 0 1 (by decide) (by decide) hx0 hx1 0 (by decide) (by decide)
  have hlen : (supp (ofInput X13) 0).length = 12 := by decide
  rw [hlen] at hb
  have hb' : ((12 : Nat) : Rat) * 10 ≤ 2 * 1 + 11 * 10 := hb
  norm_num at hb'

theorem encoding_complete_FullStatement_false : ¬ encoding_complete_FullStatement := by
  intro H
  obtain ⟨pt, hs, hx⟩ := H X13 { stable := false, exhaustive := true, given := some [0, 1] } (X13_exact false true)
    (X13_wellFormed true)
    { given := fun W' h => (by cases h; rfl), fixB := fun vb h => (by cases h), fixP := fun pf h => (by cases h) }
    rfl (by norm_num [X13]) (fun h => by cases h)
  have hx0 : pt.x 0 = 1 := by rw [hx 0]; rfl
  have hx1 : pt.x 1 = 1 := by rw [hx 1]; rfl
  exact X13_infeasible false true _ pt hs hx0 hx1

/-- one voter, project 0 (cost 1, approved, selected) and project 1 (cost 11 > 10 × budget, not selected), budget 1 -/
def XBig : Input :=
  { C := [0, 1], cost := fun c => if c = 0 then 1 else 11, budget := 1, W := [0],
    N := [{ app := fun c => c == 0, pay := fun c => if c = 0 then 1 else 0 }], b := 1 }

theorem XBig_exact (s e : Bool) : Exact XBig s e := by
  rw [← exact_iff]
  cases s <;> cases e <;> decide +kernel

/-- a project that costs more than 10 × the budget limit makes the program infeasible whenever it is not selected — although
    it can never be selected and does not stand in the way of a price system (replayed on the real `priceable()`: INFEASIBLE) -/
theorem expensive_project_counterexample (cfg : Cfg) (pt : Point) (h : sat (ofInput XBig) cfg pt = true) (hx : pt.x 1 = 0) :
    False := by
  have F := (sat_iff _ _ _).mp h
  have h1 := feasible_unselected_cost (ofInput XBig) cfg pt F 1 (by decide) hx
  have h2 : (ofInput XBig).cost 1 = 11 := by norm_num [ofInput, XBig]
  have h3 : INF (ofInput XBig) = 10 := by norm_num [INF, ofInput, XBig]
  rw [h2, h3] at h1
  norm_num at h1

/-! ### the integrality hypothesis is needed -/

/-- the integrality hypothesis of `WellFormed` is needed: one voter, projects 0 and 1 (cost 1 each), budget 3/2 — `{0}` is
    exhaustive (1 + 1 > 3/2) and priceable, but the program writes exhaustiveness as `total + cost ≥ budget + 1` -/
def XFrac : Input :=
  { C := [0, 1], cost := fun _ => 1, budget := 3 / 2, W := [0],
    N := [{ app := fun c => c == 0, pay := fun c => if c = 0 then 1 else 0 }], b := 1 }

theorem XFrac_exact (s : Bool) : Exact XFrac s true := by
  rw [← exact_iff]
  cases s <;> decide +kernel

theorem fractional_budget_counterexample (s : Bool) (given : Option (List Pid)) (pt : Point)
    (h : sat (ofInput XFrac) { stable := s, exhaustive := true, given := given } pt = true) (hx : pt.x 1 = 0) : False := by
  have F := (sat_iff _ _ _).mp h
  have h0 := F.c0b rfl 1 (List.Mem.tail _ (List.Mem.head _))
  have ht : tot (ofInput XFrac) pt = 1 * pt.x 0 + (1 * pt.x 1 + 0) := rfl
  have hc : (ofInput XFrac).cost 1 = 1 := rfl
  have hb : (ofInput XFrac).budget = 3 / 2 := rfl
  rw [ht, hc, hb, hx] at h0
  have hx0 : pt.x 0 ≤ 1 := (F.bnd_x 0 (List.Mem.head _)).elim (fun h => h ▸ zero_le_one) (fun h => h.le)
  linarith only [h0, hx0]

/-! ### the "prevent empty allocation" constraint `b · n ≥ budget` (searched, not exhaustive) -/

/-- the searched program is the program for the given allocation `W = {c | x_c = 1}` plus — when exhaustiveness is not
    required — the requirement `b·n ≥ budget`: relative to the definition of a price system the search adds exactly this
    lower bound on the voter budget, and nothing else -/
theorem searched_iff_given (E : Elec) (cfg : Cfg) (pt : Point) (hg : cfg.given = none) :
    sat E cfg pt = true ↔
      sat E { cfg with given := some (toInput E pt).W } pt = true ∧ (cfg.exhaustive = false → E.budget ≤ (nv E : Rat) * pt.b) := by
  rw [sat_iff, sat_iff]
  constructor
  · intro F
    refine ⟨{ F with fixx := ?_, nonEmpty := fun _ h => (by cases h) }, fun he => F.nonEmpty he hg⟩
    intro W hW c hc
    obtain rfl : (toInput E pt).W = W := Option.some.inj hW
    rcases F.bnd_x c hc with h0 | h1
    · have : ¬ ((toInput E pt).W.contains c = true) := by
        rw [toInput_contains]; intro hh; rw [h0] at hh; norm_num at hh
      rw [if_neg this]; exact h0
    · have : (toInput E pt).W.contains c = true := (toInput_contains E pt c).mpr ⟨hc, h1⟩
      rw [if_pos this]; exact h1
  · rintro ⟨F, hne⟩
    exact { F with fixx := fun W h => (by rw [hg] at h; cases h), nonEmpty := fun he _ => hne he }

/-- when it does prevent the empty allocation: if some project that costs less than the budget limit is approved by every
    voter, no point of the searched, non-exhaustive, plain program selects nothing -/
theorem nonEmpty_clause_prevents_empty (E : Elec) (cfg : Cfg) (pt : Point) (h : sat E cfg pt = true)
    (hs : cfg.stable = false) (he : cfg.exhaustive = false) (hg : cfg.given = none)
    (c : Pid) (hc : c ∈ E.C) (hall : ∀ ai ∈ voters E, ai.1 c = true) (hcost : E.cost c < E.budget) :
    ∃ c' ∈ E.C, pt.x c' = 1 := by
  have F := (sat_iff _ _ _).mp h
  by_contra hnone
  have hx0 : ∀ c' ∈ E.C, pt.x c' = 0 := by
    intro c' hc'
    rcases F.bnd_x c' hc' with h0 | h1
    · exact h0
    · exact absurd ⟨c', hc', h1⟩ hnone
  have hsp : ∀ ai ∈ voters E, spentP E pt ai.2 = 0 := fun ai hai =>
    sumOver_eq_zero fun c' hc' => F.core.pay_unselected hai hc' (hx0 c' hc')
  have hsupp : supp E c = voters E := by
    unfold supp
    exact List.filter_eq_self.mpr hall
  have h5 := F.c5 hs c hc
  rw [hx0 c hc, hsupp] at h5
  have hr : sumOver (voters E) (fun ai => pt.r ai.2) = sumOver (voters E) (fun _ => pt.b) := by
    apply sumOver_congr
    intro ai hai
    rw [F.rdef hs ai hai, hsp ai hai]; ring
  rw [hr, sumOver_const] at h5
  have hn : (voters E).length = nv E := by unfold voters nv; simp
  rw [hn] at h5
  have := F.nonEmpty he hg
  linarith

/-- it does not always prevent it: two voters, project 0 (cost 3) approved by the first only, budget 4 — the point that selects
    NOTHING, with voter budget 2, satisfies the searched program although `{0}` is affordable -/
def EEmpty : Elec := { C := [0], cost := fun _ => 3, budget := 4, apps := [fun c => c == 0, fun _ => false] }

theorem nonEmpty_clause_allows_empty :
    sat EEmpty { stable := false, exhaustive := false, given := none }
      { b := 2, p := fun _ _ => 0, x := fun _ => 0, r := fun _ => 2, m := fun _ => 0 } = true := by
  decide +kernel

/-- and it excludes NON-empty allocations that are priceable by definition: two voters, projects 0 and 1 (cost 1 each), budget
    10, voter 0 approves 0, voter 1 approves 1; `{0}` with voter budget 1 is a price system -/
def XExcl : Input :=
  { C := [0, 1], cost := fun _ => 1, budget := 10, W := [0],
    N := [{ app := fun c => c == 0, pay := fun c => if c = 0 then 1 else 0 }, { app := fun c => c == 1, pay := fun _ => 0 }],
    b := 1 }

theorem XExcl_exact : Exact XExcl false false := by
  rw [← exact_iff]; decide +kernel

theorem XExcl_given_sat :
    sat (ofInput XExcl) { stable := false, exhaustive := false, given := some [0] } (pointOf XExcl) = true := by
  decide +kernel

/-- no point of the searched program leaves project 1 out (in particular none selects exactly `{0}`): voter 1 may keep at
    most `cost(1) = 1`, so `b·n ≤ 2 < 10` -/
theorem nonEmpty_clause_excludes_priceable (pt : Point)
    (h : sat (ofInput XExcl) { stable := false, exhaustive := false, given := none } pt = true)
    (hx1 : pt.x 1 = 0) : False := by
  have F := (sat_iff _ _ _).mp h
  have hv : voters (ofInput XExcl) = [(fun c => c == 0, 0), (fun c => c == 1, 1)] := rfl
  have hm1 : ((fun c => c == 1, 1) : (Pid → Bool) × Nat) ∈ voters (ofInput XExcl) := hv ▸ List.Mem.tail _ (List.Mem.head _)
  have hc0 : (0 : Pid) ∈ (ofInput XExcl).C := List.Mem.head _
  have hc1 : (1 : Pid) ∈ (ofInput XExcl).C := List.Mem.tail _ (List.Mem.head _)
  have h5 := F.c5 rfl 1 hc1
  have hsupp : supp (ofInput XExcl) 1 = [(fun c => c == 1, 1)] := by
    unfold supp; rw [hv]; rfl
  rw [hsupp, hx1] at h5
  have hr : pt.r 1 = pt.b - spentP (ofInput XExcl) pt 1 := F.rdef rfl _ hm1
  have hp0 : pt.p 1 0 = 0 := F.c1 _ hm1 0 hc0 rfl
  have hp1 : pt.p 1 1 = 0 := F.core.pay_unselected hm1 hc1 hx1
  have hsp : spentP (ofInput XExcl) pt 1 = pt.p 1 0 + (pt.p 1 1 + 0) := rfl
  rw [hsp, hp0, hp1] at hr
  have hne : (10 : Rat) ≤ ((2 : Nat) : Rat) * pt.b := F.nonEmpty rfl rfl
  have h5' : pt.r 1 + 0 ≤ 1 + 0 * INF (ofInput XExcl) := h5
  rw [Nat.cast_ofNat] at hne
  linarith only [hne, h5', hr]

/-! ### the hypotheses are satisfiable: the election of C12.lean (two voters share project 0, project 1 stays out) -/

/-- a feasible point ⇒ an exact price system that the validator accepts -/
example : Exact (toInput (ofInput (exInput 1 1 1)) (pointOf (exInput 1 1 1))) true true ∧
    validate (toInput (ofInput (exInput 1 1 1)) (pointOf (exInput 1 1 1))) true true = true :=
  let h := encoding_sound (ofInput (exInput 1 1 1)) { stable := true, exhaustive := true, given := some [0] }
    (pointOf (exInput 1 1 1)) (by decide +kernel)
  ⟨h.1, h.2.1⟩

theorem exInput_wellFormed (e : Bool) : WellFormed (exInput 1 1 1) e :=
  WellFormed.of_nat e (fun c => if c = 0 then 2 else 3) 4 (by unfold WithinInstance; decide)
    (fun c => by show (if c = 0 then (2 : Rat) else 3) = ((if c = 0 then 2 else 3 : Nat) : Rat); split <;> rfl)
    rfl (by decide) (by decide)

/-- an exact price system ⇒ a feasible point (through `encoding_complete_small_profile`, all hypotheses discharged) -/
example : ∃ pt, sat (ofInput (exInput 1 1 1)) { stable := true, exhaustive := true, given := some [0] } pt = true ∧
    (∀ c, pt.x c = if (exInput 1 1 1).W.contains c then 1 else 0) ∧ (∀ i, pt.p i = (pointOf (exInput 1 1 1)).p i) ∧
    pt.b ≤ (exInput 1 1 1).budget :=
  encoding_complete_small_profile (exInput 1 1 1) { stable := true, exhaustive := true, given := some [0] } exInput_stable
    (exInput_wellFormed true)
    { given := fun W' h => (by cases h; rfl), fixB := fun vb h => (by cases h), fixP := fun pf h => (by cases h) }
    rfl (by norm_num [exInput]) (fun h => by cases h) (by decide)

example : sat (ofInput (exInput 1 1 1)) { stable := false, exhaustive := true, given := none } (pointOf (exInput 1 1 1)) = true := by
  decide +kernel

/-- a point that overpays -/
example : sat (ofInput (exInput 1 (3 / 2) 1)) { stable := false, exhaustive := true, given := none }
    (pointOf (exInput 1 (3 / 2) 1)) = false := by
  decide +kernel

end Pabu.PriceMIP
