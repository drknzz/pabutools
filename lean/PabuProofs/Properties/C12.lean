/-
  C12 — the price-system validator is sound and complete up to its rounding tolerance.
  (The search: the program `priceable()` builds is proved sound and complete for the definition in
  Properties/C12MIP.lean; CBC's answer for that program is trusted and compared with an exact LP oracle by the harness.)
-/
import PabuProofs.Lemmas.PriceRelax
namespace Pabu.Price

theorem round2_close' (x : Rat) : |round2 x - x| ≤ 1 / 200 := round2_close x

theorem round2_mono' {x y : Rat} (h : x ≤ y) : round2 x ≤ round2 y := round2_mono h

/-- every tolerance-checked condition holds up to an error below `ε` (the exact-valued conditions C0a, C0b, C1 hold):
    what a floating-point solver returns for a price system — each quantity a rounding error away from its exact value -/
structure Within (ε : Rat) (X : Input) (stable exhaustive : Bool) : Prop where
  feasible : X.total ≤ X.budget
  exhaust : exhaustive = true → ∀ c ∈ X.NW, ¬ (X.total + X.cost c ≤ X.budget)
  approved : ∀ v ∈ X.N, ∀ c ∈ X.C, v.app c = false → v.pay c = 0
  nonneg : ∀ v ∈ X.N, ∀ c ∈ X.C, -ε < v.pay c
  within : ∀ v ∈ X.N, spent X v < X.b + ε
  selected : ∀ c ∈ X.W, |paidFor X c - X.cost c| < ε
  unselected : ∀ c ∈ X.NW, |paidFor X c| < ε
  noMoney : stable = false → ∀ c ∈ X.NW, leftoverOf X c < X.cost c + ε
  stab : stable = true → ∀ c ∈ X.NW, stableOf X c < X.cost c + ε

theorem within_of_exact (ε : Rat) (hε : 0 < ε) (X : Input) (stable exhaustive : Bool) (E : Exact X stable exhaustive) :
    Within ε X stable exhaustive :=
  have hadd {x y : Rat} (h : x ≤ y) : x < y + ε := lt_of_le_of_lt h (lt_add_of_pos_right y hε)
  { feasible := E.feasible, exhaust := E.exhaust, approved := E.approved,
    nonneg := fun v hv c hc => lt_of_lt_of_le (neg_neg_of_pos hε) (E.nonneg v hv c hc),
    within := fun v hv => hadd (E.within v hv),
    selected := fun c hc => by rw [E.selected c hc, sub_self, abs_zero]; exact hε,
    unselected := fun c hc => by rw [E.unselected c hc, abs_zero]; exact hε,
    noMoney := fun hs c hc => hadd (E.noMoney hs c hc),
    stab := fun hs c hc => hadd (E.stab hs c hc) }

/-- completeness with a tolerance, wherever the numbers lie: a pair that meets every condition up to an error below half
    a cent is accepted.  (False for the former `round(a, 2) - round(b, 2)`: a voter budget 2.375 − 10⁻¹⁵ and a voter
    spending 2.375 straddle the rounding boundary and compared as 2.37 < 2.38 — `straddle_former_formula` below.) -/
theorem validate_complete_within (ε : Rat) (hε : ε ≤ 1 / 200) (X : Input) (stable exhaustive : Bool)
    (E : Within ε X stable exhaustive) : validate X stable exhaustive = true := by
  have hadd {x y : Rat} (h : x < y + ε) : x ≤ y + 1 / 200 := le_of_lt (lt_of_lt_of_le h (add_le_add_right hε y))
  rw [validate_eq_relaxed, validateRelaxed_iff]
  exact ⟨E.feasible, E.exhaust, E.approved,
    fun v hv c hc => le_of_lt (lt_of_le_of_lt (neg_le_neg hε) (E.nonneg v hv c hc)),
    fun v hv => hadd (E.within v hv),
    fun c hc => le_trans (le_of_lt (E.selected c hc)) hε,
    fun c hc => le_trans (le_of_lt (E.unselected c hc)) hε,
    fun hs c hc => hadd (E.noMoney hs c hc),
    fun hs c hc => hadd (E.stab hs c hc)⟩

/-- the witness of the defect: 2.375 and 2.375 − 10⁻¹⁵ compare as equal -/
theorem straddle_equal : roundCmp (19 / 8) (19 / 8 - 1 / 10 ^ 15) = 0 ∧ roundCmp (19 / 8 - 1 / 10 ^ 15) (19 / 8) = 0 :=
  ⟨roundCmp_eq_zero_of_close (by rw [abs_lt]; constructor <;> norm_num),
   roundCmp_eq_zero_of_close (by rw [abs_lt]; constructor <;> norm_num)⟩

/-- the former formula `round(a, 2) - round(b, 2)` told them apart by a whole cent -/
theorem straddle_former_formula : round2 (19 / 8) - round2 (19 / 8 - 1 / 10 ^ 15) = 1 / 100 := by
  decide +kernel

/-- completeness: a pair that meets every condition exactly is accepted -/
theorem validate_complete (X : Input) (stable exhaustive : Bool) (E : Exact X stable exhaustive) :
    validate X stable exhaustive = true :=
  validate_complete_within (1 / 200) le_rfl X stable exhaustive
    (within_of_exact (1 / 200) (by norm_num) X stable exhaustive E)

/-- sharp soundness: the validator's real tolerance is half a cent — a violation by more than 1/200 is rejected -/
theorem validate_sound_half_cent (δ : Rat) (hδ : 1 / 200 < δ) (X : Input) (stable exhaustive : Bool)
    (B : BrokenBy δ X stable exhaustive) : validate X stable exhaustive = false :=
  validateRelaxed_sound_half_cent δ hδ X X.cost stable exhaustive B.relaxed

theorem validate_sound_gap (δ : Rat) (hδ : 1 / 100 < δ) (X : Input) (stable exhaustive : Bool)
    (B : BrokenBy δ X stable exhaustive) : validate X stable exhaustive = false :=
  validate_sound_half_cent δ (lt_trans (by norm_num) hδ) X stable exhaustive B

/-- the form stated in the property: a violation by at least 0.1 is always rejected -/
theorem validate_sound_margin (X : Input) (stable exhaustive : Bool)
    (B : BrokenBy (1 / 10) X stable exhaustive) : validate X stable exhaustive = false :=
  validate_sound_gap (1 / 10) (by norm_num) X stable exhaustive B

theorem stable_implies_plain (X : Input) (exhaustive : Bool) (E : Exact X true exhaustive) :
    Exact X false exhaustive :=
  { feasible := E.feasible, exhaust := E.exhaust, approved := E.approved, nonneg := E.nonneg, within := E.within,
    selected := E.selected, unselected := E.unselected,
    noMoney := fun _ c hc => le_trans (leftoverOf_le_stableOf X c) (E.stab rfl c hc),
    stab := fun h => by cases h }

theorem validate_stable_implies_plain (X : Input) (exhaustive : Bool) (h : validate X true exhaustive = true) :
    validate X false exhaustive = true := by
  rw [validate_eq_relaxed, validateRelaxed_iff] at h ⊢
  obtain ⟨h0, hb, h1, hn, h2, h3, h4, _, hs⟩ := h
  exact ⟨h0, hb, h1, hn, h2, h3, h4, fun _ c hc => le_trans (leftoverOf_le_stableOf X c) (hs rfl c hc),
    fun hf => absurd hf Bool.false_ne_true⟩

/-- an allocation is (stable-)priceable for the ballots `apps` when some voter budget and payment functions
    form a (stable) price system -/
def Priceable (C : List Pid) (cost : Pid → Rat) (budget : Rat) (W : List Pid) (apps : List (Pid → Bool))
    (stable exhaustive : Bool) : Prop :=
  ∃ (b : Rat) (N : List PVoter), N.map (fun v => v.app) = apps ∧
    Exact { C := C, cost := cost, budget := budget, W := W, N := N, b := b } stable exhaustive

/-- an allocation that costs more than the budget limit has no price system (condition C0a) -/
theorem infeasible_not_priceable (C : List Pid) (cost : Pid → Rat) (budget : Rat) (W : List Pid)
    (apps : List (Pid → Bool)) (stable exhaustive : Bool) (h : budget < costOf cost W) :
    ¬ Priceable C cost budget W apps stable exhaustive := by
  rintro ⟨b, N, _, E⟩
  exact absurd E.feasible (not_le.mpr h)

theorem infeasible_rejected (X : Input) (stable exhaustive : Bool) (h : X.budget < X.total) :
    validate X stable exhaustive = false := by
  rw [← Bool.not_eq_true, validate_eq_relaxed, validateRelaxed_iff]
  exact fun H => absurd H.1 (not_le.mpr h)

/-- counting form of "infeasible allocations are never priceable": a price system with voter budget `b` pays for
    `W` out of the voters' `n · b`, so an allocation costing more than that has no price system with that budget -/
theorem priceable_total_le_money (X : Input) (stable exhaustive : Bool) (E : Exact X stable exhaustive)
    (hW : X.W.Sublist X.C) : X.total ≤ (X.N.length : Rat) * X.b := by
  -- the cost of `W` is what the voters pay for `W`, project by project; summed voter by voter it is at most `b` each
  have h1 : X.total = sumOver X.W (fun c => sumOver X.N (fun v => v.pay c)) :=
    sumOver_congr (fun c hc => (E.selected c hc).symm)
  rw [h1, sumOver_swap, ← sumOver_const]
  exact sumOver_mono (fun v hv =>
    le_trans (sumOver_sublist_le hW (fun c hc => E.nonneg v hv c hc)) (E.within v hv))

/- Equal Shares outcomes are priceable (without the exhaustiveness requirement) when utilities are positive exactly on
   the approved projects: proved as `mes_priceable` (`trace_is_price_system`, `mes_priceable_tie`, `mes_priceable_cost_sat`)
   in PabuProofs/Properties/C12Mes.lean; the zero-utility corner (finding K1) is `mes_priceable_zero_cost_counterexample`
   there. -/

/-! ### the hypotheses are satisfiable: two voters share the cost of one project; a second project stays out -/

def exInput (b : Rat) (p1 p2 : Rat) : Input :=
  { C := [0, 1], cost := fun c => if c = 0 then 2 else 3, budget := 4, W := [0],
    N := [{ app := fun c => c = 0, pay := fun c => if c = 0 then p1 else 0 },
          { app := fun _ => true, pay := fun c => if c = 0 then p2 else 0 }],
    b := b }

theorem exInput_plain : Exact (exInput 1 1 1) false true := by
  rw [← exact_iff]; decide +kernel

theorem exInput_stable : Exact (exInput 1 1 1) true true := by
  rw [← exact_iff]; decide +kernel

example : BrokenBy (1 / 10) (exInput 1 (11 / 10) 1) false true :=
  BrokenBy.c2 ⟨_, List.mem_cons_self, by decide +kernel⟩

example : Priceable [0, 1] (fun c => if c = 0 then 2 else 3) 4 [0] [fun c => c = 0, fun _ => true] false true :=
  ⟨1, (exInput 1 1 1).N, rfl, exInput_plain⟩

example : (exInput 1 1 1).W.Sublist (exInput 1 1 1).C := by decide

example : Within (1 / 200) (exInput 1 1 1) true true := within_of_exact _ (by norm_num) _ _ _ exInput_stable

/-- a perturbed system (a voter budget 10⁻¹⁵ short, a payment 10⁻¹⁵ over) is within the tolerance, not exact -/
example : Within (1 / 200) (exInput (1 - 1 / 10 ^ 15) 1 (1 + 1 / 10 ^ 15)) false true ∧
    ¬ Exact (exInput (1 - 1 / 10 ^ 15) 1 (1 + 1 / 10 ^ 15)) false true := by
  constructor
  · refine ⟨?_, fun _ => ?_, ?_, ?_, ?_, ?_, ?_, fun _ => ?_, fun h => absurd h Bool.false_ne_true⟩ <;> decide +kernel
  · intro E
    have := E.within _ (List.mem_cons_of_mem _ List.mem_cons_self)
    norm_num [spent, exInput, sumOver] at this

end Pabu.Price
