/-
  Lemmas about the sequential-Phragmén model (PabuModel.Phragmen):
  the minimisers and the stop rule, well-formedness of the round rule, the state invariant and validity
  of every outcome, the effect of a purchase on the loads, the run builds what the definition builds,
  multiplicities as copies.
-/
import PabuModel.Phragmen
import PabuProofs.Lemmas.Greedy
namespace Pabu
namespace Phragmen
open GreedyAux

/-! ### Which project may be bought next, and when the process stops -/

/-- `q` is purchasable at the earliest instant among the undecided projects -/
def IsEarliest (C : Ctx) (s : State) (q : Pid) : Prop :=
  q ∈ s.pool ∧ ∀ r ∈ s.pool, ERat.le (newMax C s q) (newMax C s r) = true

/-- `t` may be bought next: it is purchasable at the earliest instant and no project purchasable at that
    instant would exceed the budget -/
def IsNext (C : Ctx) (s : State) (t : Pid) : Prop :=
  IsEarliest C s t ∧ ∀ q, IsEarliest C s q → s.spent + C.cost q ≤ C.budget

/-- the process stops: nothing is left, or a project purchasable at the next instant exceeds the budget -/
def Stops (C : Ctx) (s : State) : Prop :=
  s.pool = [] ∨ ∃ q, IsEarliest C s q ∧ C.budget < s.spent + C.cost q

theorem emin_cons_cons (x y : ERat) (l : List ERat) :
    emin (x :: y :: l) = if ERat.le x (emin (y :: l)) then x else emin (y :: l) := rfl

theorem emin_picksLeast : PicksLeast ERat.le emin :=
  ⟨ERat_le_total, fun _ _ _ => ERat_le_trans, fun _ => rfl, emin_cons_cons⟩

theorem mem_argmin_iff (C : Ctx) (s : State) (t : Pid) : t ∈ argmin C s ↔ IsEarliest C s t :=
  emin_picksLeast.mem_filter_iff (fun _ _ => ERat_le_antisymm) _ _ _

theorem argmin_eq_nil_iff (C : Ctx) (s : State) : argmin C s = [] ↔ s.pool = [] :=
  emin_picksLeast.filter_eq_nil_iff _ _

theorem overshoot_iff (C : Ctx) (s : State) :
    (argmin C s).any (fun p => decide (C.budget < s.spent + C.cost p)) = true ↔
      ∃ q, IsEarliest C s q ∧ C.budget < s.spent + C.cost q := by
  rw [List.any_eq_true]
  exact exists_congr fun q => by rw [mem_argmin_iff, decide_eq_true_eq]

theorem tied_of_overshoot {C : Ctx} {s : State} (h : ∃ q, IsEarliest C s q ∧ C.budget < s.spent + C.cost q) :
    tied C s = [] :=
  if_pos ((overshoot_iff C s).mpr h)

theorem tied_of_not_overshoot {C : Ctx} {s : State}
    (h : ¬ ∃ q, IsEarliest C s q ∧ C.budget < s.spent + C.cost q) : tied C s = argmin C s :=
  if_neg fun h' => h ((overshoot_iff C s).mp h')

theorem mem_tied_iff_isNext (C : Ctx) (s : State) (t : Pid) : t ∈ tied C s ↔ IsNext C s t := by
  by_cases h : ∃ q, IsEarliest C s q ∧ C.budget < s.spent + C.cost q
  · obtain ⟨q, hq, hov⟩ := h
    rw [tied_of_overshoot ⟨q, hq, hov⟩]
    exact ⟨fun ht => (nomatch ht), fun hn => absurd (hn.2 q hq) (not_le.mpr hov)⟩
  · rw [tied_of_not_overshoot h, mem_argmin_iff]
    exact ⟨fun he => ⟨he, fun q hq => le_of_not_gt fun hov => h ⟨q, hq, hov⟩⟩, fun hn => hn.1⟩

theorem tied_eq_nil_iff_stops (C : Ctx) (s : State) : tied C s = [] ↔ Stops C s := by
  by_cases h : ∃ q, IsEarliest C s q ∧ C.budget < s.spent + C.cost q
  · exact iff_of_true (tied_of_overshoot h) (Or.inr h)
  · rw [tied_of_not_overshoot h, argmin_eq_nil_iff]
    exact ⟨Or.inl, fun hs => hs.resolve_right h⟩

/-! ### Well-formed round rule -/

theorem tied_sub_pool (C : Ctx) (s : State) : ∀ x ∈ tied C s, x ∈ s.pool :=
  fun x hx => ((mem_tied_iff_isNext C s x).mp hx).1.1

theorem buy_alloc (C : Ctx) (s : State) (t : Pid) : (buy C s t).alloc = s.alloc ++ [t] := rfl
theorem buy_spent (C : Ctx) (s : State) (t : Pid) : (buy C s t).spent = s.spent + C.cost t := rfl
theorem buy_pool (C : Ctx) (s : State) (t : Pid) : (buy C s t).pool = s.pool.filter (fun q => q != t) := rfl

theorem mem_buy_pool {C : Ctx} {s : State} {t p : Pid} : p ∈ (buy C s t).pool ↔ p ∈ s.pool ∧ p ≠ t := by
  rw [buy_pool, List.mem_filter, bne_iff_ne]

theorem rule_WF (C : Ctx) : (rule C).WF where
  tied_sub := tied_sub_pool C
  pool_buy := fun _ _ _ _ hx => (mem_buy_pool (C := C)).mp hx

theorem buy_pool_lt (C : Ctx) (s : State) (t : Pid) (ht : t ∈ tied C s) :
    (buy C s t).pool.length < s.pool.length :=
  List.length_filter_lt_length_iff_exists.mpr ⟨t, tied_sub_pool C s t ht, by simp⟩

/-! ### The state invariant (no sign condition on costs is needed: the stop rule looks at the budget) -/

structure Inv (C : Ctx) (projects init : List Pid) (s : State) : Prop where
  spent_eq : s.spent = costOf C.cost s.alloc
  nodup : s.alloc.Nodup
  sub : ∀ p ∈ s.alloc, p ∈ projects
  init_sub : ∀ p ∈ init, p ∈ s.alloc
  spent_le : s.spent ≤ C.budget
  pool_sound : ∀ p ∈ s.pool, p ∈ projects ∧ p ∉ s.alloc

def instOf (C : Ctx) (projects : List Pid) : Inst := ⟨projects, C.cost, C.budget⟩

theorem inv_valid {C : Ctx} {projects init : List Pid} {s : State} (h : Inv C projects init s) :
    ValidOutcome (instOf C projects) init s.alloc :=
  ⟨h.nodup, h.sub, h.init_sub, h.spent_eq ▸ h.spent_le⟩

theorem mem_initState_pool {C : Ctx} {projects init : List Pid} {loads : Nat → Rat} {p : Pid} :
    p ∈ (initState C projects init loads).pool ↔ p ∈ projects ∧ p ∉ init ∧ C.cost p ≤ C.budget := by
  simp only [initState, List.mem_filter, mem_sortIds, Bool.and_eq_true, Bool.not_eq_true',
    List.contains_eq_mem, decide_eq_false_iff_not, decide_eq_true_eq]

theorem inv_init (C : Ctx) (projects init : List Pid) (loads : Nat → Rat) (hinit : init.Nodup)
    (hsub : ∀ p ∈ init, p ∈ projects) (hcost : costOf C.cost init ≤ C.budget) :
    Inv C projects init (initState C projects init loads) where
  spent_eq := rfl
  nodup := hinit
  sub := hsub
  init_sub := fun _ h => h
  spent_le := hcost
  pool_sound := fun _ hp => ⟨(mem_initState_pool.mp hp).1, (mem_initState_pool.mp hp).2.1⟩

theorem inv_buy (C : Ctx) (projects init : List Pid) (s : State) (t : Pid)
    (hs : Inv C projects init s) (ht : t ∈ tied C s) : Inv C projects init (buy C s t) := by
  obtain ⟨he, hfit⟩ := (mem_tied_iff_isNext C s t).mp ht
  obtain ⟨htP, htA⟩ := hs.pool_sound t he.1
  obtain ⟨h1, h2, h3, _⟩ := (inv_valid hs).snoc (I := instOf C projects) htP htA (hs.spent_eq ▸ hfit t he)
  refine ⟨?_, h1, h2, h3, hfit t he, fun p hp => ?_⟩
  · rw [buy_spent, buy_alloc, costOf_snoc, hs.spent_eq]
  · obtain ⟨hpp, hpt⟩ := mem_buy_pool.mp hp
    obtain ⟨hpP, hpA⟩ := hs.pool_sound p hpp
    exact ⟨hpP, fun hm => (List.mem_append.mp hm).elim hpA fun h => hpt (List.mem_singleton.mp h)⟩

/-! ### Every outcome is valid -/

theorem runP_valid (C : Ctx) (projects init : List Pid) (loads : Nat → Rat) (hinit : init.Nodup)
    (hsub : ∀ p ∈ init, p ∈ projects) (hcost : costOf C.cost init ≤ C.budget)
    (ord : List Pid → List Pid) (hord : ∀ T, ∀ x ∈ ord T, x ∈ T) (n : Nat) :
    ValidOutcome (instOf C projects) init ((rule C).runP ord n (initState C projects init loads)) := by
  obtain ⟨s', hs', hW⟩ := RoundRule.runP_inv (rule C) ord (Inv C projects init) hord
    (fun s t hs ht => inv_buy C projects init s t hs ht) n _ (inv_init C projects init loads hinit hsub hcost)
  rw [hW]; exact inv_valid hs'

theorem runAllP_valid (C : Ctx) (projects init : List Pid) (loads : Nat → Rat) (hinit : init.Nodup)
    (hsub : ∀ p ∈ init, p ∈ projects) (hcost : costOf C.cost init ≤ C.budget) (n : Nat) :
    ∀ W ∈ (rule C).runAllP n (initState C projects init loads), ValidOutcome (instOf C projects) init W := by
  intro W hW
  obtain ⟨s', hs', hW'⟩ := RoundRule.runAllP_inv (rule C) (Inv C projects init)
    (fun s t hs ht => inv_buy C projects init s t hs ht) n _ (inv_init C projects init loads hinit hsub hcost) W hW
  rw [hW']; exact inv_valid hs'

/-! ### The loads after a purchase -/

theorem buy_load (C : Ctx) (s : State) (t : Pid) (i : Nat) :
    (buy C s t).load i =
      if C.app i t then (match newMax C s t with | some x => x | none => s.load i) else s.load i := rfl

/-- after the purchase every supporter's load is the purchase instant (their balance is reset to 0) -/
theorem buy_load_supporter (C : Ctx) (s : State) (t : Pid) (x : Rat) (hx : newMax C s t = some x)
    (i : Nat) (hi : C.app i t = true) : (buy C s t).load i = x := by
  rw [buy_load, if_pos hi, hx]

theorem buy_load_other (C : Ctx) (s : State) (t : Pid) (i : Nat) (hi : C.app i t = false) :
    (buy C s t).load i = s.load i := by
  rw [buy_load, hi]; rfl

theorem buy_load_unsupported (C : Ctx) (s : State) (t : Pid) (hx : newMax C s t = none) (i : Nat) :
    (buy C s t).load i = s.load i := by
  rw [buy_load, hx]
  exact ite_self _

/-! ### The run builds what the definition builds -/

/-- sequential Phragmén by its definition, with tie-breaking `order`; the state after a purchase is
    `buy C s t` (allocation, spending, pool: `buy_alloc`, `buy_spent`, `buy_pool`; loads:
    `buy_load_supporter`, `buy_load_other`) -/
inductive SpecRun (C : Ctx) (order : List Pid → Except Err (List Pid)) : State → List Pid → Prop
  | stop (s : State) : Stops C s → SpecRun C order s s.alloc
  | step (s : State) (T : List Pid) (t : Pid) (r W : List Pid) : (∀ x, x ∈ T ↔ IsNext C s x) →
      order T = .ok (t :: r) → SpecRun C order (buy C s t) W → SpecRun C order s W

/-- the irresolute definition: any project that may be bought next -/
inductive SpecRunAny (C : Ctx) : State → List Pid → Prop
  | stop (s : State) : Stops C s → SpecRunAny C s s.alloc
  | step (s : State) (t : Pid) (W : List Pid) : IsNext C s t → SpecRunAny C (buy C s t) W → SpecRunAny C s W

theorem run_spec (C : Ctx) (projects init : List Pid) (order : List Pid → Except Err (List Pid))
    (hord : ∀ T l, order T = .ok l → (∀ x ∈ l, x ∈ T) ∧ (T ≠ [] → l ≠ [])) (n : Nat) (s : State) (W : List Pid)
    (hs : Inv C projects init s) (hn : s.pool.length ≤ n) (h : (rule C).run order n s = .ok W) :
    ValidOutcome (instOf C projects) init W ∧ SpecRun C order s W :=
  RoundRule.run_rec (rule C) (Inv := Inv C projects init)
    (P := fun s W => ValidOutcome (instOf C projects) init W ∧ SpecRun C order s W)
    (fun s t hs ht => ⟨inv_buy C projects init s t hs ht, buy_pool_lt C s t ht⟩)
    (fun s hs hT => ⟨inv_valid hs, .stop s ((tied_eq_nil_iff_stops C s).mp hT)⟩)
    (rule_WF C) order hord
    (fun s t r W _ ho h => ⟨h.1, .step s _ t r W (mem_tied_iff_isNext C s) ho h.2⟩)
    n s W hs hn h

theorem runAllP_spec (C : Ctx) (projects init : List Pid) (n : Nat) (s : State) (hn : s.pool.length ≤ n) :
    ∀ W ∈ (rule C).runAllP n s,
      (Inv C projects init s → ValidOutcome (instOf C projects) init W) ∧ SpecRunAny C s W :=
  RoundRule.runAllP_rec (rule C) (Inv := fun _ => True)
    (P := fun s W => (Inv C projects init s → ValidOutcome (instOf C projects) init W) ∧ SpecRunAny C s W)
    (fun s t _ ht => ⟨trivial, buy_pool_lt C s t ht⟩)
    (fun s _ hT => ⟨inv_valid, .stop s ((tied_eq_nil_iff_stops C s).mp hT)⟩)
    (rule_WF C)
    (fun s t W _ ht h => ⟨fun hs => h.1 (inv_buy C projects init s t hs ht),
      .step s t W ((mem_tied_iff_isNext C s t).mp ht) h.2⟩)
    n s trivial hn

theorem runAllP_complete {C : Ctx} {s : State} {W : List Pid} (h : SpecRunAny C s W) :
    ∀ n, s.pool.length ≤ n → W ∈ (rule C).runAllP n s := by
  induction h with
  | stop s hstop => exact fun n _ => (rule C).out_mem_runAllP ((tied_eq_nil_iff_stops C s).mpr hstop) n
  | step s t W hnext _ ih =>
    intro n hn
    have ht : t ∈ tied C s := (mem_tied_iff_isNext C s t).mpr hnext
    exact (rule C).mem_runAllP_of_step ht (buy_pool_lt C s t ht) hn ih

/-! ### Multiplicities count as that many identical voters -/

/-- every entry `i` replaced by `m i` copies of multiplicity 1 (copies share the index, hence the load) -/
def expand (C : Ctx) : Ctx :=
  { vs := C.vs.flatMap (fun i => List.replicate (C.m i) i), m := fun _ => 1, app := C.app,
    cost := C.cost, budget := C.budget }

theorem sumOver_supporters_expand (C : Ctx) (p : Pid) (f : Nat → Rat) :
    sumOver (supporters (expand C) p) f = sumOver (supporters C p) (fun i => (C.m i : Rat) * f i) := by
  unfold supporters expand
  simp only
  generalize C.vs = vs
  induction vs with
  | nil => rfl
  | cons v vs ih =>
    rw [List.flatMap_cons, List.filter_append, List.filter_replicate, sumOver_append, ih, List.filter_cons]
    cases C.app v p
    · rw [if_neg Bool.false_ne_true, if_neg Bool.false_ne_true, sumOver_nil, zero_add]
    · rw [if_pos rfl, if_pos rfl, sumOver_replicate, sumOver_cons]

theorem score_expand (C : Ctx) (p : Pid) : score (expand C) p = score C p := by
  have h := sumOver_supporters_expand C p (fun _ => 1)
  simp only [mul_one] at h
  unfold score
  exact_mod_cast (sumNat_cast _ _).trans (h.trans (sumNat_cast _ _).symm)

theorem newMax_expand (C : Ctx) (s : State) (p : Pid) : newMax (expand C) s p = newMax C s p := by
  unfold newMax
  rw [score_expand, sumOver_supporters_expand]
  simp only [expand, Nat.cast_one, one_mul]

theorem rule_expand (C : Ctx) : rule (expand C) = rule C := by
  have h : newMax (expand C) = newMax C := funext fun s => funext (newMax_expand C s)
  unfold rule tied argmin buy
  rw [h]
  rfl

end Phragmen
end Pabu
