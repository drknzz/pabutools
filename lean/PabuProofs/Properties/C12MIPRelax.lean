/-
  C12 (search with a relaxation) — the mixed-integer program `priceable(..., stable=True, relaxation=R)` hands to the solver
  ENCODES "the allocation has a price system that is stable w.r.t. the relaxed costs `R.get_relaxed_cost`", for the five
  classes MinMul, MinAdd, MinAddVector, MinAddVectorPositive, MinAddOffset, and its objective is the number `R.get_beta`
  reports — within the domain each class declares for its β-variables and the limits of the big-M constant `INF = 10·budget`,
  which are stated exactly:

   * `relaxed_encoding_sound`: every point of the program is a price system for W = {c | x_c = 1} that is stable w.r.t. the relaxed
     cost `get_beta` + `get_relaxed_cost` compute from that very point (`rcOf_mul` … `rcOf_off`), accepted by the relaxed validator;
   * `relaxed_encoding_complete_partial`, `relaxed_encoding_complete` (and `…_of_rc_nonneg`, `…_mul`, `…_vec`, `…_vecpos`): a relaxed
     price system with parameters in the class's domain that fits under the big-M constants is a point of the program; the bound
     is met by capping the voter budget when (#supporters)·budget ≤ relaxed cost + 10·budget for every selected project;
   * `relaxed_encoding_complete_FullStatement_false`: without the bound the statement is FALSE (2 voters, MinAdd, every project
     selected: the definition allows β = −INF, every point of the program has β ≥ −INF + 1);
   * `relaxed_optimum_spec`, `relaxed_infeasible_spec`: under the explicit solver hypothesis `RSolverSpec` (satisfiable:
     `rsolverSpec_satisfiable`) the returned β is attained and is the LEAST `get_beta` value over the relaxed stable price systems
     that respect the call, lie in the class's domain and fit under the big-M constants; status INFEASIBLE ⇒ there is none;
   * `rsat_mul_one`, `sat_rsat_mul_one`, `relaxed_optimum_le_neutral_mul`: MinMul at β = 1 is the plain program, so the optimum
     of MinMul is at most 1 whenever the plain program has a point.

  Only the solver's answer stays trusted; that the program in PabuModel/PriceMIPRelax.lean is the one the library builds
  (variables with bounds and types, every row, objective sense and coefficients) is checked by harness/props/C12_mip.py.
-/
import PabuProofs.Lemmas.PriceMIPRelax
import PabuProofs.Properties.C12MIP
import PabuProofs.Properties.C12Relax
namespace Pabu.PriceMIP
open Price

/-! ### the relaxed cost of a point is the shape of the class at the point's β -/

theorem rcOf_mul (E : Elec) (rp : RPoint) : rcOf E .mul rp = rcMinMul E.cost rp.beta := rfl
theorem rcOf_add (E : Elec) (rp : RPoint) : rcOf E .add rp = rcMinAdd E.cost rp.beta := rfl
theorem rcOf_vec (E : Elec) (rp : RPoint) : rcOf E .vec rp = rcMinAddVector E.cost rp.betac := rfl
theorem rcOf_vecpos (E : Elec) (rp : RPoint) : rcOf E .vecpos rp = rcMinAddVector E.cost rp.betac := rfl
theorem rcOf_off (E : Elec) (rp : RPoint) : rcOf E .off rp = rcMinAddOffset E.cost rp.beta rp.betac := rfl

theorem toInput_cost (E : Elec) (pt : Point) : (toInput E pt).cost = E.cost := rfl

/-! ### soundness -/

/-- SOUNDNESS.  A point that satisfies the variable domains and all rows of the relaxed program is a price system for
    `W = {c ∈ C | x_c = 1}` (voter budget `b`, payments `p`) that is stable with respect to the relaxed costs computed from the
    point's own β by `get_beta` / `get_relaxed_cost`; `validate_price_system(…, relaxation=R)` accepts it; `W` is feasible,
    exhaustive when asked, the given allocation when one was given; the β-variables lie in the class's declared domain. -/
theorem relaxed_encoding_sound (E : Elec) (R : Relax) (cfg : Cfg) (rp : RPoint) (h : rsat E R cfg rp = true) :
    ExactRelaxed (toInput E rp.base) (rcOf E R rp) cfg.stable cfg.exhaustive ∧
    exactRelaxed (toInput E rp.base) (rcOf E R rp) cfg.stable cfg.exhaustive = true ∧
    validateRelaxed (toInput E rp.base) (rcOf E R rp) cfg.stable cfg.exhaustive = true ∧
    (toInput E rp.base).total ≤ E.budget ∧
    (cfg.exhaustive = true → ∀ c ∈ (toInput E rp.base).NW, ¬ ((toInput E rp.base).total + E.cost c ≤ E.budget)) ∧
    (∀ c ∈ E.C, rp.base.x c = 0 ∨ rp.base.x c = 1) ∧
    (∀ W, cfg.given = some W → (toInput E rp.base).W = E.C.filter (fun c => W.contains c)) ∧
    (∀ vb, cfg.fixB = some vb → (toInput E rp.base).b = vb) ∧
    Domain E R rp.base.x rp.beta rp.betac := by
  obtain ⟨F, hD⟩ := (rsat_iff E R cfg rp).mp h
  have Ex := feasibleR_exactRelaxed E cfg rp.base (rcOf E R rp) F
  exact ⟨Ex, (exactRelaxed_iff _ _ _ _).mpr Ex, validateRelaxed_complete _ _ _ _ Ex, Ex.feasible, Ex.exhaust, F.core.bnd_x,
    fun W hW => toInput_W_of_fixx E rp.base W (F.core.fixx W hW), F.core.fixb, hD⟩

/-! `relaxed_encoding_sound` for each class in its own words: the relaxed cost in the shape of PabuModel.Price, the domain spelt out -/

theorem relaxed_encoding_sound_mul (E : Elec) (cfg : Cfg) (rp : RPoint) (h : rsat E .mul cfg rp = true) :
    ExactRelaxed (toInput E rp.base) (rcMinMul (toInput E rp.base).cost rp.beta) cfg.stable cfg.exhaustive ∧ 0 ≤ rp.beta :=
  let s := relaxed_encoding_sound E .mul cfg rp h
  ⟨s.1, s.2.2.2.2.2.2.2.2⟩

theorem relaxed_encoding_sound_add (E : Elec) (cfg : Cfg) (rp : RPoint) (h : rsat E .add cfg rp = true) :
    ExactRelaxed (toInput E rp.base) (rcMinAdd (toInput E rp.base).cost rp.beta) cfg.stable cfg.exhaustive ∧ -(INF E) ≤ rp.beta :=
  let s := relaxed_encoding_sound E .add cfg rp h
  ⟨s.1, s.2.2.2.2.2.2.2.2⟩

/-- MinAddVector: additionally β_c = 0 on the selected projects and |β_c| ≤ budget on the others -/
theorem relaxed_encoding_sound_vec (E : Elec) (cfg : Cfg) (rp : RPoint) (h : rsat E .vec cfg rp = true) :
    ExactRelaxed (toInput E rp.base) (rcMinAddVector (toInput E rp.base).cost rp.betac) cfg.stable cfg.exhaustive ∧
    (∀ c ∈ E.C, rp.base.x c = 1 → rp.betac c = 0) ∧
    (∀ c ∈ E.C, rp.base.x c = 0 → -E.budget ≤ rp.betac c ∧ rp.betac c ≤ E.budget) := by
  have s := relaxed_encoding_sound E .vec cfg rp h
  have hD : ∀ c ∈ E.C, -(INF E) ≤ rp.betac c ∧ rp.betac c ≤ (1 - rp.base.x c) * E.budget ∧
      (rp.base.x c - 1) * E.budget ≤ rp.betac c := s.2.2.2.2.2.2.2.2
  refine ⟨s.1, ?_, ?_⟩
  · intro c hc hx
    obtain ⟨_, h1, h2⟩ := hD c hc
    rw [hx, sub_self, zero_mul] at h1 h2
    exact le_antisymm h1 h2
  · intro c hc hx
    obtain ⟨_, h1, h2⟩ := hD c hc
    rw [hx, sub_zero, one_mul] at h1
    rw [hx, zero_sub, neg_one_mul] at h2
    exact ⟨h2, h1⟩

theorem relaxed_encoding_sound_vecpos (E : Elec) (cfg : Cfg) (rp : RPoint) (h : rsat E .vecpos cfg rp = true) :
    ExactRelaxed (toInput E rp.base) (rcMinAddVector (toInput E rp.base).cost rp.betac) cfg.stable cfg.exhaustive ∧
    (∀ c ∈ E.C, 0 ≤ rp.betac c) :=
  let s := relaxed_encoding_sound E .vecpos cfg rp h
  ⟨s.1, s.2.2.2.2.2.2.2.2⟩

theorem relaxed_encoding_sound_off (E : Elec) (cfg : Cfg) (rp : RPoint) (h : rsat E .off cfg rp = true) :
    ExactRelaxed (toInput E rp.base) (rcMinAddOffset (toInput E rp.base).cost rp.beta rp.betac) cfg.stable cfg.exhaustive ∧
    -(INF E) ≤ rp.beta ∧ (∀ c ∈ E.C, 0 ≤ rp.betac c) ∧ sumOver E.C rp.betac ≤ budgetFraction * E.budget :=
  let s := relaxed_encoding_sound E .off cfg rp h
  ⟨s.1, s.2.2.2.2.2.2.2.2⟩

/-! ### completeness -/

/-- COMPLETENESS, bounds explicit.  A price system of a well-formed election that is stable w.r.t. the relaxed costs of class `R`
    at parameters `(β, βv)` lying in the class's declared domain, and whose supporters' stability amounts of every SELECTED
    project sum to at most `relaxed cost + 10·budget`, is a point of the program, with `x` the indicator of `W`, `b` the voter
    budget, `p` the payments and exactly these β-values; `get_beta` reports `β` (`Σ βv` for the vector classes). -/
theorem relaxed_encoding_complete_partial (X : Input) (cfg : Cfg) (R : Relax) (β : Rat) (βv : Pid → Rat)
    (Ex : ExactRelaxed X (rcK R X.cost β βv) cfg.stable cfg.exhaustive)
    (wf : WellFormed X cfg.exhaustive) (asks : Asks cfg X) (hb0 : 0 ≤ X.b)
    (hne : cfg.exhaustive = false → cfg.given = none → X.budget ≤ (X.N.length : Rat) * X.b)
    (hdom : Domain (ofInput X) R (pointOf X).x β βv)
    (hbd : BoundedR X cfg.stable (rcK R X.cost β βv)) :
    rsat (ofInput X) R cfg (rpointOf X β βv) = true ∧
    (∀ c, (rpointOf X β βv).base.x c = if X.W.contains c then 1 else 0) ∧ (rpointOf X β βv).base.b = X.b ∧
    getBeta (ofInput X) R (rpointOf X β βv) = betaK R X.C β βv := by
  refine ⟨(rsat_iff _ _ _ _).mpr ⟨?_, hdom⟩, fun _ => rfl, rfl, rfl⟩
  exact exactRelaxed_feasibleR X cfg (rcK R X.cost β βv) Ex wf.within wf.costNonneg hb0
    (fun he => ⟨wf.intBudget he, wf.intCost he⟩) wf.budgetPos wf.affordable hne hbd asks.given asks.fixB asks.fixP

/-- COMPLETENESS with the big-M bound discharged by capping the voter budget at the budget limit: it is enough that, for every
    selected project, (number of supporters)·budget ≤ relaxed cost + 10·budget (plain rows, `stable=False`: at most 10
    supporters).  The point has exactly that `x`, those payments and those β-values. -/
theorem relaxed_encoding_complete (X : Input) (cfg : Cfg) (R : Relax) (β : Rat) (βv : Pid → Rat)
    (Ex : ExactRelaxed X (rcK R X.cost β βv) cfg.stable cfg.exhaustive)
    (wf : WellFormed X cfg.exhaustive) (asks : Asks cfg X) (hfb : cfg.fixB = none) (hb0 : 0 ≤ X.b)
    (hne : cfg.exhaustive = false → cfg.given = none → X.budget ≤ (X.N.length : Rat) * X.b)
    (hdom : Domain (ofInput X) R (pointOf X).x β βv)
    (hplain : cfg.stable = false → ∀ c ∈ X.W, ((X.N.filter (fun v => v.app c)).length : Rat) ≤ 10)
    (hstab : cfg.stable = true → ∀ c ∈ X.W,
      ((X.N.filter (fun v => v.app c)).length : Rat) * X.budget ≤ rcK R X.cost β βv c + 10 * X.budget) :
    ∃ rp, rsat (ofInput X) R cfg rp = true ∧ (∀ c, rp.base.x c = if X.W.contains c then 1 else 0) ∧
      (∀ i, rp.base.p i = (pointOf X).p i) ∧ rp.base.b ≤ X.budget ∧ rp.beta = β ∧ rp.betac = βv ∧
      getBeta (ofInput X) R rp = betaK R X.C β βv := by
  have hbud0 := wf.budget_nonneg Ex.feasible
  have h := relaxed_encoding_complete_partial (capB X) cfg R β βv
    (capB_exactRelaxed X (rcK R X.cost β βv) cfg.stable cfg.exhaustive Ex wf.within) wf.capB (asks.capB hfb)
    (capB_b_nonneg X hb0 hbud0) (fun he hg => capB_nonEmpty X hbud0 (hne he hg)) hdom
    (capB_boundedR X (rcK R X.cost β βv) cfg.stable cfg.exhaustive Ex wf.within wf.costNonneg hb0 hplain hstab)
  exact ⟨rpointOf (capB X) β βv, h.1, h.2.1, fun _ => rfl, capB_b_le_budget X, rfl, rfl, h.2.2.2⟩

/-- in particular whenever the relaxed costs of the selected projects are non-negative and no selected project has more than 10 supporters -/
theorem relaxed_encoding_complete_of_rc_nonneg (X : Input) (cfg : Cfg) (R : Relax) (β : Rat) (βv : Pid → Rat)
    (Ex : ExactRelaxed X (rcK R X.cost β βv) cfg.stable cfg.exhaustive)
    (wf : WellFormed X cfg.exhaustive) (asks : Asks cfg X) (hfb : cfg.fixB = none) (hb0 : 0 ≤ X.b)
    (hne : cfg.exhaustive = false → cfg.given = none → X.budget ≤ (X.N.length : Rat) * X.b)
    (hdom : Domain (ofInput X) R (pointOf X).x β βv)
    (hrc : ∀ c ∈ X.W, 0 ≤ rcK R X.cost β βv c)
    (hsmall : ∀ c ∈ X.W, ((X.N.filter (fun v => v.app c)).length : Rat) ≤ 10) :
    ∃ rp, rsat (ofInput X) R cfg rp = true ∧ (∀ c, rp.base.x c = if X.W.contains c then 1 else 0) ∧
      (∀ i, rp.base.p i = (pointOf X).p i) ∧ rp.base.b ≤ X.budget ∧ rp.beta = β ∧ rp.betac = βv ∧
      getBeta (ofInput X) R rp = betaK R X.C β βv := by
  have hbud0 := wf.budget_nonneg Ex.feasible
  apply relaxed_encoding_complete X cfg R β βv Ex wf asks hfb hb0 hne hdom (fun _ => hsmall)
  intro _ c hc
  have h1 := hsmall c hc
  have h2 := hrc c hc
  have h3 : ((X.N.filter (fun v => v.app c)).length : Rat) * X.budget ≤ 10 * X.budget := mul_le_mul_of_nonneg_right h1 hbud0
  linarith

/-- MinMul: β ≥ 0 is the class's domain, the relaxed costs `cost·β` are non-negative -/
theorem relaxed_encoding_complete_mul (X : Input) (cfg : Cfg) (β : Rat)
    (Ex : ExactRelaxed X (rcMinMul X.cost β) cfg.stable cfg.exhaustive)
    (wf : WellFormed X cfg.exhaustive) (asks : Asks cfg X) (hfb : cfg.fixB = none) (hb0 : 0 ≤ X.b)
    (hne : cfg.exhaustive = false → cfg.given = none → X.budget ≤ (X.N.length : Rat) * X.b)
    (hβ : 0 ≤ β) (hsmall : ∀ c ∈ X.W, ((X.N.filter (fun v => v.app c)).length : Rat) ≤ 10) :
    ∃ rp, rsat (ofInput X) .mul cfg rp = true ∧ (∀ c, rp.base.x c = if X.W.contains c then 1 else 0) ∧
      (∀ i, rp.base.p i = (pointOf X).p i) ∧ rp.base.b ≤ X.budget ∧ rp.beta = β := by
  obtain ⟨rp, h1, h2, h3, h4, h5, _⟩ := relaxed_encoding_complete_of_rc_nonneg X cfg .mul β (fun _ => 0) Ex wf asks hfb hb0 hne hβ
    (fun c hc => mul_nonneg (wf.costNonneg c (mem_W_C X wf.within c hc)) hβ) hsmall
  exact ⟨rp, h1, h2, h3, h4, h5⟩

/-- MinAddVectorPositive: β_c ≥ 0 is the class's domain -/
theorem relaxed_encoding_complete_vecpos (X : Input) (cfg : Cfg) (βv : Pid → Rat)
    (Ex : ExactRelaxed X (rcMinAddVector X.cost βv) cfg.stable cfg.exhaustive)
    (wf : WellFormed X cfg.exhaustive) (asks : Asks cfg X) (hfb : cfg.fixB = none) (hb0 : 0 ≤ X.b)
    (hne : cfg.exhaustive = false → cfg.given = none → X.budget ≤ (X.N.length : Rat) * X.b)
    (hβ : ∀ c ∈ X.C, 0 ≤ βv c) (hsmall : ∀ c ∈ X.W, ((X.N.filter (fun v => v.app c)).length : Rat) ≤ 10) :
    ∃ rp, rsat (ofInput X) .vecpos cfg rp = true ∧ (∀ c, rp.base.x c = if X.W.contains c then 1 else 0) ∧
      (∀ i, rp.base.p i = (pointOf X).p i) ∧ rp.base.b ≤ X.budget ∧ rp.betac = βv ∧
      getBeta (ofInput X) .vecpos rp = sumOver X.C βv := by
  obtain ⟨rp, h1, h2, h3, h4, _, h6, h7⟩ := relaxed_encoding_complete_of_rc_nonneg X cfg .vecpos 0 βv Ex wf asks hfb hb0 hne hβ
    (fun c hc => by
      have hc' := mem_W_C X wf.within c hc
      have h1 := wf.costNonneg c hc'
      have h2 := hβ c hc'
      show 0 ≤ X.cost c + βv c
      linarith) hsmall
  exact ⟨rp, h1, h2, h3, h4, h6, h7⟩

/-- MinAddVector: the class's domain (β_c = 0 on the selected projects, |β_c| ≤ budget on the others) makes the relaxed cost of a
    selected project its cost -/
theorem relaxed_encoding_complete_vec (X : Input) (cfg : Cfg) (βv : Pid → Rat)
    (Ex : ExactRelaxed X (rcMinAddVector X.cost βv) cfg.stable cfg.exhaustive)
    (wf : WellFormed X cfg.exhaustive) (asks : Asks cfg X) (hfb : cfg.fixB = none) (hb0 : 0 ≤ X.b)
    (hne : cfg.exhaustive = false → cfg.given = none → X.budget ≤ (X.N.length : Rat) * X.b)
    (hsel : ∀ c ∈ X.W, βv c = 0) (hun : ∀ c ∈ X.NW, -X.budget ≤ βv c ∧ βv c ≤ X.budget)
    (hsmall : ∀ c ∈ X.W, ((X.N.filter (fun v => v.app c)).length : Rat) ≤ 10) :
    ∃ rp, rsat (ofInput X) .vec cfg rp = true ∧ (∀ c, rp.base.x c = if X.W.contains c then 1 else 0) ∧
      (∀ i, rp.base.p i = (pointOf X).p i) ∧ rp.base.b ≤ X.budget ∧ rp.betac = βv ∧
      getBeta (ofInput X) .vec rp = sumOver X.C βv := by
  have hWC := mem_W_C X wf.within
  have hbud0 := wf.budget_nonneg Ex.feasible
  have hdom : Domain (ofInput X) .vec (pointOf X).x 0 βv := by
    intro c hc
    show -(X.budget * 10) ≤ βv c ∧ βv c ≤ (1 - (pointOf X).x c) * X.budget ∧ ((pointOf X).x c - 1) * X.budget ≤ βv c
    rcases pointOf_x_cases X c hc with ⟨hw, hx⟩ | ⟨hnw, hx⟩ <;> rw [hx]
    · rw [hsel c hw, sub_self, zero_mul]
      exact ⟨by linarith only [hbud0], le_refl _, le_refl _⟩
    · obtain ⟨h1, h2⟩ := hun c hnw
      rw [sub_zero, one_mul, zero_sub, neg_one_mul]
      exact ⟨by linarith only [h1, hbud0], h2, h1⟩
  obtain ⟨rp, h1, h2, h3, h4, _, h6, h7⟩ := relaxed_encoding_complete_of_rc_nonneg X cfg .vec 0 βv Ex wf asks hfb hb0 hne hdom
    (fun c hc => by
      have h1 := wf.costNonneg c (hWC c hc)
      show 0 ≤ X.cost c + βv c
      rw [hsel c hc]; linarith) hsmall
  exact ⟨rp, h1, h2, h3, h4, h6, h7⟩

/-! ### the solver hypothesis and the optimum -/

/-- the solver hypothesis is satisfiable (classically: answer OPTIMAL with a minimal point if one exists, INFEASIBLE if the
    program has no point, OTHER otherwise) -/
theorem rsolverSpec_satisfiable : ∃ solve : RProgram → RAnswer, RSolverSpec solve := by
  classical
  refine ⟨fun P =>
    if h : ∃ a, P.sat a = true ∧ ∀ b : RPoint, P.sat b = true → P.objective a ≤ P.objective b then RAnswer.optimal (Classical.choose h)
    else if ∀ b : RPoint, P.sat b = false then RAnswer.infeasible else RAnswer.other, ?_⟩
  intro P
  constructor
  · intro a ha
    by_cases h : ∃ a, P.sat a = true ∧ ∀ b : RPoint, P.sat b = true → P.objective a ≤ P.objective b
    · simp only [dif_pos h] at ha
      have : Classical.choose h = a := by injection ha
      rw [← this]
      exact Classical.choose_spec h
    · simp only [dif_neg h] at ha
      by_cases h2 : ∀ b : RPoint, P.sat b = false
      · rw [if_pos h2] at ha; cases ha
      · rw [if_neg h2] at ha; cases ha
  · intro hn
    by_cases h : ∃ a, P.sat a = true ∧ ∀ b : RPoint, P.sat b = true → P.objective a ≤ P.objective b
    · simp only [dif_pos h] at hn; cases hn
    · simp only [dif_neg h] at hn
      by_cases h2 : ∀ b : RPoint, P.sat b = false
      · exact h2
      · rw [if_neg h2] at hn; cases hn

/-- THE RETURNED β.  Assume only that the solver, when it reports OPTIMAL, returns an objective-minimal point of the program it
    was given (`RSolverSpec`).  Then for the point `rp` returned for the program of `priceable(…, relaxation=R)`:
     (a) `rp` read as (allocation, voter budget, payments) is a price system that is stable w.r.t. the relaxed costs
         `get_relaxed_cost` computes from `rp`'s own β; the relaxed validator accepts it; the β-variables lie in the class's domain;
     (b) the objective value at `rp` is the number `get_beta` reports;
     (c) that number is the LEAST one: every price system `X` of the same election that respects the call (`Asks`: the given
         allocation, a hard-coded voter budget / payments), is stable w.r.t. the relaxed costs of ANY parameters `(β, βv)` in the
         class's domain and fits under the big-M constants (`BoundedR`) has `get_beta`-value ≥ the returned one. -/
theorem relaxed_optimum_spec (solve : RProgram → RAnswer) (hS : RSolverSpec solve) (E : Elec) (R : Relax) (cfg : Cfg) (rp : RPoint)
    (h : solve (rprogram E R cfg) = RAnswer.optimal rp) :
    (ExactRelaxed (toInput E rp.base) (rcOf E R rp) cfg.stable cfg.exhaustive ∧
      validateRelaxed (toInput E rp.base) (rcOf E R rp) cfg.stable cfg.exhaustive = true ∧
      Domain E R rp.base.x rp.beta rp.betac) ∧
    (rprogram E R cfg).objective rp = getBeta E R rp ∧
    (∀ (X : Input) (β : Rat) (βv : Pid → Rat), ofInput X = E →
      ExactRelaxed X (rcK R X.cost β βv) cfg.stable cfg.exhaustive → WellFormed X cfg.exhaustive → Asks cfg X → 0 ≤ X.b →
      (cfg.exhaustive = false → cfg.given = none → X.budget ≤ (X.N.length : Rat) * X.b) →
      Domain (ofInput X) R (pointOf X).x β βv → BoundedR X cfg.stable (rcK R X.cost β βv) →
      getBeta E R rp ≤ betaK R X.C β βv) := by
  obtain ⟨hsat, hmin⟩ := (hS (rprogram E R cfg)).1 rp h
  have hs := relaxed_encoding_sound E R cfg rp hsat
  refine ⟨⟨hs.1, hs.2.2.1, hs.2.2.2.2.2.2.2.2⟩, objective_eq_getBeta E R cfg rp, ?_⟩
  intro X β βv hE Ex wf asks hb0 hne hdom hbd
  have hc := relaxed_encoding_complete_partial X cfg R β βv Ex wf asks hb0 hne hdom hbd
  subst hE
  have := hmin (rpointOf X β βv) hc.1
  rw [objective_eq_getBeta, objective_eq_getBeta, hc.2.2.2] at this
  exact this

/-- (c) of `relaxed_optimum_spec` with the big-M bound replaced by the supporters-count condition of `relaxed_encoding_complete` (voter budget free) -/
theorem relaxed_optimum_least_small (solve : RProgram → RAnswer) (hS : RSolverSpec solve) (E : Elec) (R : Relax) (cfg : Cfg)
    (rp : RPoint) (h : solve (rprogram E R cfg) = RAnswer.optimal rp) (hfb : cfg.fixB = none)
    (X : Input) (β : Rat) (βv : Pid → Rat) (hE : ofInput X = E)
    (Ex : ExactRelaxed X (rcK R X.cost β βv) cfg.stable cfg.exhaustive) (wf : WellFormed X cfg.exhaustive) (asks : Asks cfg X)
    (hb0 : 0 ≤ X.b) (hne : cfg.exhaustive = false → cfg.given = none → X.budget ≤ (X.N.length : Rat) * X.b)
    (hdom : Domain (ofInput X) R (pointOf X).x β βv)
    (hplain : cfg.stable = false → ∀ c ∈ X.W, ((X.N.filter (fun v => v.app c)).length : Rat) ≤ 10)
    (hstab : cfg.stable = true → ∀ c ∈ X.W,
      ((X.N.filter (fun v => v.app c)).length : Rat) * X.budget ≤ rcK R X.cost β βv c + 10 * X.budget) :
    getBeta E R rp ≤ betaK R X.C β βv := by
  obtain ⟨_, hmin⟩ := (hS (rprogram E R cfg)).1 rp h
  obtain ⟨rp', h1, _, _, _, _, _, h7⟩ := relaxed_encoding_complete X cfg R β βv Ex wf asks hfb hb0 hne hdom hplain hstab
  subst hE
  have := hmin rp' h1
  rw [objective_eq_getBeta, objective_eq_getBeta, h7] at this
  exact this

/-- status INFEASIBLE: no price system of the election that respects the call is stable w.r.t. the relaxed costs of any
    parameters in the class's domain and fits under the big-M constants -/
theorem relaxed_infeasible_spec (solve : RProgram → RAnswer) (hS : RSolverSpec solve) (E : Elec) (R : Relax) (cfg : Cfg)
    (h : solve (rprogram E R cfg) = RAnswer.infeasible)
    (X : Input) (β : Rat) (βv : Pid → Rat) (hE : ofInput X = E)
    (Ex : ExactRelaxed X (rcK R X.cost β βv) cfg.stable cfg.exhaustive) (wf : WellFormed X cfg.exhaustive) (asks : Asks cfg X)
    (hb0 : 0 ≤ X.b) (hne : cfg.exhaustive = false → cfg.given = none → X.budget ≤ (X.N.length : Rat) * X.b)
    (hdom : Domain (ofInput X) R (pointOf X).x β βv) (hbd : BoundedR X cfg.stable (rcK R X.cost β βv)) : False := by
  have hno := (hS (rprogram E R cfg)).2 h
  have hc := relaxed_encoding_complete_partial X cfg R β βv Ex wf asks hb0 hne hdom hbd
  subst hE
  have := hno (rpointOf X β βv)
  have h1 : (rprogram (ofInput X) R cfg).sat (rpointOf X β βv) = true := hc.1
  rw [h1] at this
  cases this

/-! ### the neutral relaxation: MinMul at β = 1 is the plain program -/

/-- MinMul at β = 1: the relaxed rows are the plain rows — a point of the relaxed program with β = 1 is a point of the plain one -/
theorem rsat_mul_one (E : Elec) (cfg : Cfg) (rp : RPoint) (h : rsat E .mul cfg rp = true) (hβ : rp.beta = 1) :
    sat E cfg rp.base = true := by
  obtain ⟨F, _⟩ := (rsat_iff E .mul cfg rp).mp h
  rw [sat_iff, ← feasibleR_cost_iff]
  refine ⟨F.core, ?_⟩
  intro hs c hc
  have := F.s5 hs c hc
  have hrc : rcOf E .mul rp c = E.cost c := by
    show E.cost c * rp.beta = E.cost c
    rw [hβ]; ring
  rw [hrc] at this
  exact this

/-- conversely every point of the plain program is a point of the MinMul program with β = 1 -/
theorem sat_rsat_mul_one (E : Elec) (cfg : Cfg) (pt : Point) (h : sat E cfg pt = true) :
    rsat E .mul cfg { base := pt, beta := 1, betac := fun _ => 0 } = true := by
  rw [rsat_iff]
  have F := (feasibleR_cost_iff E cfg pt).mpr ((sat_iff E cfg pt).mp h)
  refine ⟨⟨F.core, ?_⟩, ?_⟩
  · intro hs c hc
    have := F.s5 hs c hc
    have hrc : rcOf E .mul { base := pt, beta := 1, betac := fun _ => 0 } c = E.cost c := by
      show E.cost c * 1 = E.cost c
      ring
    rw [hrc]
    exact this
  · show (0 : Rat) ≤ 1
    norm_num

/-- whenever the plain search has a solution, an objective-minimal answer of the MinMul search has β ≤ 1 -/
theorem relaxed_optimum_le_neutral_mul (solve : RProgram → RAnswer) (hS : RSolverSpec solve) (E : Elec) (cfg : Cfg) (rp : RPoint)
    (h : solve (rprogram E .mul cfg) = RAnswer.optimal rp) (pt : Point) (hpt : sat E cfg pt = true) : rp.beta ≤ 1 := by
  obtain ⟨_, hmin⟩ := (hS (rprogram E .mul cfg)).1 rp h
  have := hmin _ (sat_rsat_mul_one E cfg pt hpt)
  rw [objective_eq_getBeta, objective_eq_getBeta] at this
  exact this

/-! ### the unbounded statement is false -/

/-- completeness without the big-M bound (everything else as in `relaxed_encoding_complete`, the conclusion weakened to "some
    point with that allocation reports a β at most the given one" — what matters for the optimum) -/
def relaxed_encoding_complete_FullStatement : Prop :=
  ∀ (X : Input) (cfg : Cfg) (R : Relax) (β : Rat) (βv : Pid → Rat),
    ExactRelaxed X (rcK R X.cost β βv) cfg.stable cfg.exhaustive → WellFormed X cfg.exhaustive → Asks cfg X → cfg.fixB = none →
    0 ≤ X.b → (cfg.exhaustive = false → cfg.given = none → X.budget ≤ (X.N.length : Rat) * X.b) →
    Domain (ofInput X) R (pointOf X).x β βv →
    ∃ rp, rsat (ofInput X) R cfg rp = true ∧ (∀ c, rp.base.x c = if X.W.contains c then 1 else 0) ∧
      getBeta (ofInput X) R rp ≤ betaK R X.C β βv

/-- two voters, project 0 (cost 3, approved and paid by voter 0), project 1 (cost 1, approved and paid by voter 1), budget 4, both
    selected, voter budget 3 -/
def XDeg : Input :=
  { C := [0, 1], cost := fun c => if c = 0 then 3 else 1, budget := 4, W := [0, 1],
    N := [{ app := fun c => c == 0, pay := fun c => if c = 0 then 3 else 0 },
          { app := fun c => c == 1, pay := fun c => if c = 1 then 1 else 0 }],
    b := 3 }

/-- every project is selected: the pair is a price system that is stable w.r.t. ANY relaxed costs; in particular MinAdd's with
    β = −INF = −40, the least value its domain allows -/
theorem XDeg_exactRelaxed (rc : Pid → Rat) : ExactRelaxed XDeg rc true true := by
  rw [← exactRelaxed_iff]
  have h : exactRelaxed XDeg rc true true = exactRelaxed XDeg XDeg.cost true true :=
    exactRelaxed_congr XDeg rc XDeg.cost true true (fun c hc => by
      have : XDeg.NW = [] := by decide
      rw [this] at hc
      cases hc)
  rw [h]
  decide +kernel

theorem XDeg_wellFormed : WellFormed XDeg true :=
  WellFormed.of_nat true (fun c => if c = 0 then 3 else 1) 4 (by unfold WithinInstance; decide)
    (fun c => by show (if c = 0 then (3 : Rat) else 1) = ((if c = 0 then 3 else 1 : Nat) : Rat); split <;> rfl)
    rfl (by decide) (by decide)

/-- every point of the MinAdd program that selects both projects has β ≥ −39: voter 0 alone pays the 3 of project 0, so
    the common voter budget is ≥ 3; voter 1 spends at most 1, keeps ≥ 2, and the relaxed S5 row of the SELECTED project 1 reads
    `m_1 ≤ 1 + β + INF` (replayed on the real library: `priceable(…, relaxation=MinAdd)` returns β = −39, not −40) -/
theorem XDeg_beta_bound (e : Bool) (given : Option (List Pid)) (rp : RPoint)
    (h : rsat (ofInput XDeg) .add { stable := true, exhaustive := e, given := given } rp = true)
    (hx0 : rp.base.x 0 = 1) (hx1 : rp.base.x 1 = 1) : -39 ≤ rp.beta := by
  obtain ⟨F, _⟩ := (rsat_iff _ _ _ _).mp h
  have hv : voters (ofInput XDeg) = [(fun c => c == 0, 0), (fun c => c == 1, 1)] := rfl
  have hm0 : ((fun c => c == 0, 0) : (Pid → Bool) × Nat) ∈ voters (ofInput XDeg) := hv ▸ List.Mem.head _
  have hm1 : ((fun c => c == 1, 1) : (Pid → Bool) × Nat) ∈ voters (ofInput XDeg) := hv ▸ List.Mem.tail _ (List.Mem.head _)
  have hc0 : (0 : Pid) ∈ (ofInput XDeg).C := List.Mem.head _
  have hc1 : (1 : Pid) ∈ (ofInput XDeg).C := List.Mem.tail _ (List.Mem.head _)
  have hINF : INF (ofInput XDeg) = 4 * 10 := rfl
  -- project 0 is paid in full, by voter 0 alone
  have h3b := F.core.c3b 0 hc0
  rw [hx0] at h3b
  have hpaid0 : paidP (ofInput XDeg) rp.base 0 = rp.base.p 0 0 + (rp.base.p 1 0 + 0) := rfl
  have hp10 : rp.base.p 1 0 = 0 := F.core.c1 _ hm1 0 hc0 rfl
  have hcost0 : (ofInput XDeg).cost 0 = 3 := rfl
  rw [hpaid0, hp10, hcost0] at h3b
  -- so the voter budget is at least 3
  have h2 := F.core.c2 _ hm0
  have hsp0 : spentP (ofInput XDeg) rp.base 0 = rp.base.p 0 0 + (rp.base.p 0 1 + 0) := rfl
  have hp01 : 0 ≤ rp.base.p 0 1 := F.core.bnd_p _ hm0 1 hc1
  have h2' : rp.base.p 0 0 + (rp.base.p 0 1 + 0) ≤ rp.base.b := by rw [← hsp0]; exact h2
  -- voter 1 spends at most 1
  have h3a := F.core.c3a 1 hc1
  have hpaid1 : paidP (ofInput XDeg) rp.base 1 = rp.base.p 0 1 + (rp.base.p 1 1 + 0) := rfl
  have hcost1 : (ofInput XDeg).cost 1 = 1 := rfl
  rw [hpaid1, hcost1] at h3a
  have hsp1 : spentP (ofInput XDeg) rp.base 1 = rp.base.p 1 0 + (rp.base.p 1 1 + 0) := rfl
  have hm2 := F.core.m2 rfl _ hm1
  have hm2' : rp.base.b - (rp.base.p 1 0 + (rp.base.p 1 1 + 0)) ≤ rp.base.m 1 := by rw [← hsp1]; exact hm2
  -- the relaxed S5 row of project 1
  have h5 := F.s5 rfl 1 hc1
  have hsupp : supp (ofInput XDeg) 1 = [(fun c => c == 1, 1)] := by
    unfold supp; rw [hv]; rfl
  rw [hsupp, hx1, hINF] at h5
  have h5' : rp.base.m 1 + 0 ≤ (1 + rp.beta) + 1 * (4 * 10) := h5
  linarith only [h3b, h2', hp01, h3a, hm2', h5', hp10]

theorem relaxed_encoding_complete_FullStatement_false : ¬ relaxed_encoding_complete_FullStatement := by
  intro H
  obtain ⟨rp, hs, hx, hβ⟩ := H XDeg { stable := true, exhaustive := true, given := some [0, 1] } .add (-40) (fun _ => 0)
    (XDeg_exactRelaxed _) XDeg_wellFormed
    { given := fun W' h => (by cases h; rfl), fixB := fun vb h => (by cases h), fixP := fun pf h => (by cases h) }
    rfl (by norm_num [XDeg]) (fun h => by cases h)
    (by show -((4 : Rat) * 10) ≤ -40; norm_num)
  have hx0 : rp.base.x 0 = 1 := by rw [hx 0]; rfl
  have hx1 : rp.base.x 1 = 1 := by rw [hx 1]; rfl
  have hb := XDeg_beta_bound true _ rp hs hx0 hx1
  have hβ' : rp.beta ≤ -40 := hβ
  linarith

/-- the point of the program that attains −39 (so −39 is what an objective-optimal solver returns for this allocation) -/
theorem XDeg_attains : rsat (ofInput XDeg) .add { stable := true, exhaustive := true, given := some [0, 1] }
    (rpointOf XDeg (-39) (fun _ => 0)) = true := by
  decide +kernel

/-! ### the hypotheses are satisfiable: the election of C12.lean (two voters share project 0, project 1 stays out) -/

/-- MinMul, β = 1/3 (C12Relax.exInput_minMul_third): the executable test accepts the encoding point -/
theorem exInput_rsat_mul : rsat (ofInput (exInput 1 1 1)) .mul { stable := true, exhaustive := true, given := some [0] }
    (rpointOf (exInput 1 1 1) (1 / 3) (fun _ => 0)) = true := by
  decide +kernel

/-- a smaller β is possible with another price system (voter budget 4/3, payments 4/3 and 2/3: β = 2/9, the value CBC returns) -/
theorem exInput_rsat_mul_better : rsat (ofInput (exInput 1 1 1)) .mul { stable := true, exhaustive := true, given := some [0] }
    (rpointOf (exInput (4 / 3) (4 / 3) (2 / 3)) (2 / 9) (fun _ => 0)) = true := by
  decide +kernel

/-- MinAdd, β = −2 (C12Relax.exInput_minAdd_minus_two) -/
theorem exInput_rsat_add : rsat (ofInput (exInput 1 1 1)) .add { stable := true, exhaustive := true, given := some [0] }
    (rpointOf (exInput 1 1 1) (-2) (fun _ => 0)) = true := by
  decide +kernel

/-- the other three classes on the same price system: β_1 = −2 (MinAddVector), β ≡ 0 (MinAddVectorPositive; the pair is stable),
    β = −21/10 with β_1 = 1/10 = budget/40 (MinAddOffset) -/
example : rsat (ofInput (exInput 1 1 1)) .vec { stable := true, exhaustive := true, given := some [0] }
    (rpointOf (exInput 1 1 1) 0 (fun c => if c = 1 then -2 else 0)) = true := by
  decide +kernel

example : rsat (ofInput (exInput 1 1 1)) .vecpos { stable := true, exhaustive := true, given := none }
    (rpointOf (exInput 1 1 1) 0 (fun _ => 0)) = true := by
  decide +kernel

example : rsat (ofInput (exInput 1 1 1)) .off { stable := true, exhaustive := true, given := some [0] }
    (rpointOf (exInput 1 1 1) (-21 / 10) (fun c => if c = 1 then 1 / 10 else 0)) = true := by
  decide +kernel

/-- a β that is too small -/
example : rsat (ofInput (exInput 1 1 1)) .mul { stable := true, exhaustive := true, given := some [0] }
    (rpointOf (exInput 1 1 1) (1 / 4) (fun _ => 0)) = false := by
  decide +kernel

/-- soundness applied: a feasible point ⇒ a relaxed price system that the relaxed validator accepts, with the relaxed cost
    `cost·β` of MinMul -/
example : ExactRelaxed (toInput (ofInput (exInput 1 1 1)) (pointOf (exInput 1 1 1))) (rcMinMul (exInput 1 1 1).cost (1 / 3)) true true ∧
    validateRelaxed (toInput (ofInput (exInput 1 1 1)) (pointOf (exInput 1 1 1))) (rcMinMul (exInput 1 1 1).cost (1 / 3)) true true = true :=
  let h := relaxed_encoding_sound (ofInput (exInput 1 1 1)) .mul { stable := true, exhaustive := true, given := some [0] }
    (rpointOf (exInput 1 1 1) (1 / 3) (fun _ => 0)) exInput_rsat_mul
  ⟨h.1, h.2.2.1⟩

example : ExactRelaxed (toInput (ofInput (exInput 1 1 1)) (pointOf (exInput 1 1 1))) (rcMinAdd (exInput 1 1 1).cost (-2)) true true :=
  (relaxed_encoding_sound_add (ofInput (exInput 1 1 1)) { stable := true, exhaustive := true, given := some [0] }
    (rpointOf (exInput 1 1 1) (-2) (fun _ => 0)) exInput_rsat_add).1

/-- completeness applied, all hypotheses discharged: MinMul through `relaxed_encoding_complete_mul` -/
example : ∃ rp, rsat (ofInput (exInput 1 1 1)) .mul { stable := true, exhaustive := true, given := some [0] } rp = true ∧
    (∀ c, rp.base.x c = if (exInput 1 1 1).W.contains c then 1 else 0) ∧ (∀ i, rp.base.p i = (pointOf (exInput 1 1 1)).p i) ∧
    rp.base.b ≤ (exInput 1 1 1).budget ∧ rp.beta = 1 / 3 :=
  relaxed_encoding_complete_mul (exInput 1 1 1) { stable := true, exhaustive := true, given := some [0] } (1 / 3) exInput_minMul_third
    (exInput_wellFormed true)
    { given := fun W' h => (by cases h; rfl), fixB := fun vb h => (by cases h), fixP := fun pf h => (by cases h) }
    rfl (by norm_num [exInput]) (fun h => by cases h) (by norm_num) (by decide)

/-- MinAdd through `relaxed_encoding_complete` (2 supporters · budget 4 ≤ (2 − 2) + 40) -/
example : ∃ rp, rsat (ofInput (exInput 1 1 1)) .add { stable := true, exhaustive := true, given := some [0] } rp = true ∧
    (∀ c, rp.base.x c = if (exInput 1 1 1).W.contains c then 1 else 0) ∧ (∀ i, rp.base.p i = (pointOf (exInput 1 1 1)).p i) ∧
    rp.base.b ≤ (exInput 1 1 1).budget ∧ rp.beta = -2 ∧ rp.betac = (fun _ => 0) ∧
    getBeta (ofInput (exInput 1 1 1)) .add rp = -2 :=
  relaxed_encoding_complete (exInput 1 1 1) { stable := true, exhaustive := true, given := some [0] } .add (-2) (fun _ => 0)
    exInput_minAdd_minus_two (exInput_wellFormed true)
    { given := fun W' h => (by cases h; rfl), fixB := fun vb h => (by cases h), fixP := fun pf h => (by cases h) }
    rfl (by norm_num [exInput]) (fun h => by cases h)
    (by show -((4 : Rat) * 10) ≤ -2; norm_num) (fun h => by cases h)
    (by
      intro _ c hc
      obtain rfl : c = 0 := List.mem_singleton.mp hc
      have hlen : ((exInput 1 1 1).N.filter (fun v => v.app 0)).length = 2 := by decide
      rw [hlen]
      show ((2 : Nat) : Rat) * 4 ≤ 2 + -2 + 10 * 4
      norm_num)

/-- the hypotheses of `relaxed_optimum_spec` (c) hold for this price system: `BoundedR` -/
example : BoundedR (exInput 1 1 1) true (rcK .mul (exInput 1 1 1).cost (1 / 3) (fun _ => 0)) :=
  { plain := fun h => (by cases h),
    stab := by
      intro _ c hc
      obtain rfl : c = 0 := List.mem_singleton.mp hc
      decide +kernel }

end Pabu.PriceMIP
