/-
  C02 (fast paths) — "the answer does not depend on which internal fast path is used (binary
  satisfaction shortcut, lazy affordability updates, ballot multiplicities)".

  `PabuModel/MESLazy.lean` models a round of `mes_inner_algo` as the code performs it (stored
  affordabilities, visit in increasing stored order, permanent removal of unaffordable projects,
  early `break`, optional shared-satisfaction shortcut); `PabuModel/MES.lean` is the eager form.
  This file states that both return the same results.  Proofs: PabuProofs/Lemmas/MESLazy.lean.
  (Ballot multiplicities: PabuProofs/Properties/C06.lean / Lemmas/Expand.lean.)
-/
import PabuProofs.Lemmas.MESLazy
namespace Pabu.C02Lazy
open MES MESLazy

/-! ### Prices only go up as money is spent -/

theorem rho_mono {V : VCtx} {cost : Pid → Rat} {b b' : Nat → Rat} {p : Pid} {r' : Rat}
    (hb : ∀ i ∈ V.vs, 0 ≤ b i) (hb' : ∀ i ∈ V.vs, 0 ≤ b' i) (hm : ∀ i ∈ V.vs, 1 ≤ V.m i)
    (hle : ∀ i ∈ V.vs, b' i ≤ b i) (hc : 0 < cost p) (hr : rho V cost b' p = some r') :
    ∃ r, rho V cost b p = some r ∧ r ≤ r' :=
  MESLazy.rho_mono ⟨hb, hm⟩ ⟨hb', hm⟩ hle hc hr

theorem rho_antitone_budget {V : VCtx} {cost : Pid → Rat} {b b' : Nat → Rat} {p : Pid}
    (hb : ∀ i ∈ V.vs, 0 ≤ b i) (hb' : ∀ i ∈ V.vs, 0 ≤ b' i) (hm : ∀ i ∈ V.vs, 1 ≤ V.m i)
    (hle : ∀ i ∈ V.vs, b' i ≤ b i) (hc : 0 < cost p) :
    (rho V cost b p = none → rho V cost b' p = none) ∧
      (∀ r', rho V cost b' p = some r' → ∃ r, rho V cost b p = some r ∧ r ≤ r') :=
  ⟨fun h => MESLazy.rho_none_mono ⟨hb, hm⟩ hle hc h,
   fun _ hr => MESLazy.rho_mono ⟨hb, hm⟩ ⟨hb', hm⟩ hle hc hr⟩

theorem unaffordable_forever {V : VCtx} {cost : Pid → Rat} {b b' : Nat → Rat} {p : Pid}
    (hb : ∀ i ∈ V.vs, 0 ≤ b i) (hb' : ∀ i ∈ V.vs, 0 ≤ b' i) (hm : ∀ i ∈ V.vs, 1 ≤ V.m i)
    (hle : ∀ i ∈ V.vs, b' i ≤ b i) (hc : 0 < cost p) (h : rho V cost b p = none) :
    rho V cost b' p = none :=
  (rho_antitone_budget hb hb' hm hle hc).1 h

/-! ### The binary-satisfaction shortcut -/

theorem rhoBinary_eq_rho {V : VCtx} (cost : Pid → Rat) (b : Nat → Rat) {p : Pid}
    (h : allSame V p = true) : rhoBinary V cost b p = rho V cost b p :=
  MESLazy.rhoBinary_eq_rho cost b h

theorem price_eq_rho (V : VCtx) (cost : Pid → Rat) (bin : Bool) (b : Nat → Rat) (p : Pid) :
    price V cost bin b p = rho V cost b p := MESLazy.price_eq_rho V cost bin b p

theorem payL_eq_pay {V : VCtx} (bin : Bool) (b : Nat → Rat) (t : Pid) (r : Rat) {i : Nat}
    (hi : i ∈ V.vs) : payL V bin b t r i = pay V b t r i := MESLazy.payL_eq_pay bin b t r hi

/-! ### The invariant of the lazy round: stored affordability ≤ true price -/

def Stale (V : VCtx) (cost : Pid → Rat) (s : LState) : Prop :=
  ∀ p ∈ s.pool, ∀ r, rho V cost s.b p = some r → s.aff p ≤ r

/-- it holds initially: `cost / total_sat ≤ ρ` because everybody pays at most `ρ·u` -/
theorem stale_le_rho_init (V : VCtx) (I : Inst) (init : List Pid) (b0 : Rat) (hb0 : 0 ≤ b0)
    (hm : ∀ i ∈ V.vs, 1 ≤ V.m i) : Stale V I.cost (initStateL V I init b0) :=
  initStateL_stale V I init b0 hb0 hm

/-- it is preserved by the round itself (a stored value is left alone or replaced by the true
    price) -/
theorem stale_le_rho_scan {V : VCtx} {cost : Pid → Rat} (bin : Bool) (s : LState)
    (hnd : s.pool.Nodup) (h : Stale V cost s) :
    ∀ p ∈ s.pool, ∀ r, rho V cost s.b p = some r → (scan V cost bin s).aff p ≤ r := by
  intro p hp r hr
  rcases (scan_inv (V := V) (cost := cost) bin s hnd h).aff p with h1 | ⟨_, h2⟩
  · rw [h1]; exact h p hp r hr
  · rw [hr] at h2; cases h2; exact le_refl _

/-- it is preserved by the purchase that follows (money only decreases, so prices only go up):
    the relation `Rel`, which contains the invariant, is preserved -/
theorem stale_le_rho_buy {V : VCtx} {cost : Pid → Rat} {B : Rat} (hm : ∀ i ∈ V.vs, 1 ≤ V.m i)
    {ls : LState} {s : State} (h : Rel V cost B ls s) (bin : Bool) {t : Pid}
    (ht : t ∈ MES.tied V cost s) : Stale V cost (buyLazy V cost bin ls t) :=
  (h.buy hm bin ht).stale

theorem stale_le_rho (V : VCtx) (I : Inst) (init : List Pid) (b0 : Rat) (hb0 : 0 ≤ b0)
    (hm : ∀ i ∈ V.vs, 1 ≤ V.m i) :
    Stale V I.cost (initStateL V I init b0) ∧
      (∀ (bin : Bool) (s : LState), s.pool.Nodup → Stale V I.cost s →
        ∀ p ∈ s.pool, ∀ r, rho V I.cost s.b p = some r → (scan V I.cost bin s).aff p ≤ r) ∧
      (∀ (bin : Bool) (B : Rat) (ls : LState) (s : State) (t : Pid), Rel V I.cost B ls s →
        t ∈ MES.tied V I.cost s → Stale V I.cost (buyLazy V I.cost bin ls t)) :=
  ⟨stale_le_rho_init V I init b0 hb0 hm,
   fun bin s hnd h => stale_le_rho_scan bin s hnd h,
   fun bin _ _ _ _ h ht => stale_le_rho_buy hm h bin ht⟩

/-! ### One lazy round computes the eager arg-min -/

def eager (s : LState) : State := ⟨s.b, s.pool, s.alloc⟩

/-- under the invariant (and a pool without repeats) the lazy round finds the same best price and
    ties the same projects as the eager round over the same pool (as sets, and as lists up to
    order); what it removes from the pool has no price; the stored values it leaves are still lower
    bounds.  (The projects skipped by the early `break` have true price ≥ stored > best.) -/
theorem scan_eq_argmin {V : VCtx} {cost : Pid → Rat} (bin : Bool) (s : LState)
    (hnd : s.pool.Nodup) (h : Stale V cost s) :
    (scan V cost bin s).best = MES.best V cost (eager s) ∧
      (∀ q, q ∈ tiedLazy V cost bin s ↔ q ∈ MES.tied V cost (eager s)) ∧
      (tiedLazy V cost bin s).Perm (MES.tied V cost (eager s)) ∧
      (∀ q ∈ (scan V cost bin s).dropped, q ∈ s.pool ∧ rho V cost s.b q = none) ∧
      (∀ p ∈ s.pool, ∀ r, rho V cost s.b p = some r → (scan V cost bin s).aff p ≤ r) := by
  obtain ⟨hbest, hmem⟩ := scan_argmin (V := V) (cost := cost) bin (ls := s) (s := eager s)
    (fun _ _ => rfl) (fun _ hq => hq) (fun q hq hn => absurd hq hn) hnd h
  refine ⟨hbest.symm, hmem, ?_, ?_, stale_le_rho_scan bin s hnd h⟩
  · exact (List.perm_ext_iff_of_nodup (tiedLazy_nodup bin hnd h)
      (tied_nodup (V := V) (cost := cost) (s := eager s) hnd)).mpr hmem
  · intro q hq
    obtain ⟨h1, h2⟩ := (scan_inv (V := V) (cost := cost) bin s hnd h).drop q hq
    exact ⟨mem_visit.mp h1, h2⟩

/-- the same against an eager state whose pool is larger by projects without a price (the shape
    the pools have along a run: the lazy run has removed them, the eager run keeps them) -/
theorem scan_eq_argmin_rel {V : VCtx} {cost : Pid → Rat} {B : Rat} {ls : LState} {s : State}
    (h : Rel V cost B ls s) (bin : Bool) :
    (scan V cost bin ls).best = MES.best V cost s ∧
      (∀ q, q ∈ tiedLazy V cost bin ls ↔ q ∈ MES.tied V cost s) ∧
      (tiedLazy V cost bin ls).Perm (MES.tied V cost s) :=
  ⟨(h.best_eq bin).symm, h.mem_tied bin, h.tied_perm bin⟩

/-! ### The relation between lazy and eager states, explicitly -/

theorem rel_iff {V : VCtx} {cost : Pid → Rat} {B : Rat} {ls : LState} {s : State} :
    Rel V cost B ls s ↔
      (∀ i ∈ V.vs, ls.b i = s.b i) ∧ ls.alloc = s.alloc ∧
      (∀ q ∈ ls.pool, q ∈ s.pool) ∧ (∀ q ∈ s.pool, q ∉ ls.pool → rho V cost s.b q = none) ∧
      ls.pool.Nodup ∧ s.pool.Nodup ∧ Inv V cost B s ∧ Stale V cost ls :=
  ⟨fun h => ⟨h.bud, h.alloc, h.sub, h.gone, h.lnodup, h.nodup, h.inv, h.stale⟩,
   fun ⟨h1, h2, h3, h4, h5, h6, h7, h8⟩ => ⟨h1, h2, h3, h4, h5, h6, h7, h8⟩⟩

theorem rel_init (V : VCtx) (I : Inst) (init : List Pid) (b0 : Rat) (hb0 : 0 ≤ b0)
    (hm : ∀ i ∈ V.vs, 1 ≤ V.m i) (hproj : I.projects.Nodup)
    (hcost : ∀ p ∈ I.projects, 0 ≤ I.cost p) :
    Rel V I.cost (total V I init b0) (initStateL V I init b0) (initState V I init b0) :=
  MESLazy.rel_init V I init b0 hb0 hm hproj hcost

theorem rel_step {V : VCtx} {cost : Pid → Rat} {B : Rat} (hm : ∀ i ∈ V.vs, 1 ≤ V.m i)
    {ls : LState} {s : State} (h : Rel V cost B ls s) (bin : Bool) :
    (ruleLazy V cost bin).out ls = (rule V cost).out s ∧
      ((ruleLazy V cost bin).tied ls).Perm ((rule V cost).tied s) ∧
      ∀ t ∈ (rule V cost).tied s,
        Rel V cost B ((ruleLazy V cost bin).buy ls t) ((rule V cost).buy s t) :=
  ⟨(sim hm bin).out s ls h, (sim hm bin).tied s ls h, fun t ht => (sim hm bin).buy s ls t h ht⟩

theorem rel_gone_forever {V : VCtx} {cost : Pid → Rat} {B : Rat} (hm : ∀ i ∈ V.vs, 1 ≤ V.m i)
    {ls : LState} {s : State} (h : Rel V cost B ls s) {q : Pid} (hq : q ∈ s.pool)
    (hn : q ∉ ls.pool) (b' : Nat → Rat) (hb' : ∀ i ∈ V.vs, 0 ≤ b' i)
    (hle : ∀ i ∈ V.vs, b' i ≤ s.b i) : rho V cost b' q = none :=
  unaffordable_forever h.inv.nonneg hb' hm hle (h.inv.pool_pos q hq) (h.gone q hq hn)

/-! ### Whole runs -/

/-- **the lazy run is the eager run.**  For every tie-breaking function that only depends on the
    set of tied projects (invariant under permutation) and returns tied projects, shortcut on or
    off: the resolute lazy run returns exactly what `MES.run` returns (same allocation, same order,
    same error), and the irresolute lazy run returns exactly the canonical outcome list of
    `MES.runAll`. -/
theorem runLazy_eq_run (V : VCtx) (I : Inst) (init : List Pid) (bin : Bool)
    (hB : 0 ≤ I.budget) (hm : ∀ i ∈ V.vs, 1 ≤ V.m i) (hproj : I.projects.Nodup)
    (hcost : ∀ p ∈ I.projects, 0 ≤ I.cost p) (order : List Pid → Except Err (List Pid))
    (hperm : ∀ l₁ l₂ : List Pid, l₁.Perm l₂ → order l₁ = order l₂)
    (hmem : ∀ T l, order T = .ok l → ∀ x ∈ l, x ∈ T) :
    runLazy V I init order bin = MES.run V I init order ∧
      runAllLazy V I init order bin = MES.runAll V I init order :=
  runAtLazy_eq_runAt V I init bin _ (share_nonneg V I hB) hm hproj hcost order hperm hmem

/-- in particular for every shipped tie-breaking rule (`Tie.order`, `refuse` included) -/
theorem runLazy_eq_run_tie (V : VCtx) (I : Inst) (init : List Pid) (bin : Bool)
    (hB : 0 ≤ I.budget) (hm : ∀ i ∈ V.vs, 1 ≤ V.m i) (hproj : I.projects.Nodup)
    (hcost : ∀ p ∈ I.projects, 0 ≤ I.cost p) (t : Tie) (score : Pid → Nat) :
    runLazy V I init (t.order I.cost score) bin = MES.run V I init (t.order I.cost score) ∧
      runAllLazy V I init (t.order I.cost score) bin = MES.runAll V I init (t.order I.cost score) :=
  runLazy_eq_run V I init bin hB hm hproj hcost _
    (fun _ _ h => Tie.order_perm_eq t I.cost score h) (Tie.order_mem t I.cost score)

/-- the same at any per-voter budget `b0 ≥ 0` -/
theorem runAtLazy_eq_runAt (V : VCtx) (I : Inst) (init : List Pid) (bin : Bool) (b0 : Rat)
    (hb0 : 0 ≤ b0) (hm : ∀ i ∈ V.vs, 1 ≤ V.m i) (hproj : I.projects.Nodup)
    (hcost : ∀ p ∈ I.projects, 0 ≤ I.cost p) (order : List Pid → Except Err (List Pid))
    (hperm : ∀ l₁ l₂ : List Pid, l₁.Perm l₂ → order l₁ = order l₂)
    (hmem : ∀ T l, order T = .ok l → ∀ x ∈ l, x ∈ T) :
    runAtLazy V I init order bin b0 = runAt V I init order b0 ∧
      runAllAtLazy V I init order bin b0 = runAllAt V I init order b0 :=
  MESLazy.runAtLazy_eq_runAt V I init bin b0 hb0 hm hproj hcost order hperm hmem

/-- the same for the iterated variant (`voter_budget_increment`), which restarts every iteration from
    the initial stored affordabilities -/
theorem iteratedLazy_eq_iterated (V : VCtx) (I : Inst) (init : List Pid) (bin : Bool)
    (hm : ∀ i ∈ V.vs, 1 ≤ V.m i) (hproj : I.projects.Nodup)
    (hcost : ∀ p ∈ I.projects, 0 ≤ I.cost p) (order : List Pid → Except Err (List Pid))
    (hperm : ∀ l₁ l₂ : List Pid, l₁.Perm l₂ → order l₁ = order l₂)
    (hmem : ∀ T l, order T = .ok l → ∀ x ∈ l, x ∈ T) (inc : Rat) (hinc : 0 ≤ inc)
    (fuel : Nat) (b0 : Rat) (hb0 : 0 ≤ b0) :
    (∀ prev, iteratedLazy V I init order bin inc fuel b0 prev =
        iterated V I init order inc fuel b0 prev) ∧
      (∀ prev, iteratedAllLazy V I init order bin inc fuel b0 prev =
        iteratedAll V I init order inc fuel b0 prev) :=
  MESLazy.iteratedLazy_eq_iterated V I init bin hm hproj hcost order hperm hmem inc hinc fuel b0 hb0

/-! ### The hypotheses are satisfiable, and the fast paths are really taken -/

/-- three voters; project 0 (cost 1) approved by all, project 1 (cost 1) by voter 0 only,
    project 2 (cost 10) by voter 2 only; budget 6, so everybody starts with 2 -/
def exV : VCtx :=
  ⟨[0, 1, 2], fun _ => 1, fun i p => if p = 0 ∨ (p = 1 ∧ i = 0) ∨ (p = 2 ∧ i = 2) then 1 else 0⟩
def exI : Inst := ⟨[0, 1, 2], fun p => if p = 2 then 10 else 1, 6⟩

/-- the input satisfies the hypotheses of `runLazy_eq_run` -/
example : 0 ≤ exI.budget ∧ (∀ i ∈ exV.vs, 1 ≤ exV.m i) ∧ exI.projects.Nodup ∧
    (∀ p ∈ exI.projects, 0 ≤ exI.cost p) := by
  refine ⟨by simp [exI], fun _ _ => le_refl _, by decide, ?_⟩
  intro p _
  simp only [exI]
  split <;> norm_num

/-- stored affordabilities 1/3, 1, 10: the first round prices project 0 at 1/3 and then BREAKS at
    project 1 (stored 1 > 1/3) although it is affordable — projects 1 and 2 are skipped -/
example : (scan exV exI.cost false (initStateL exV exI [] 2)).stopped = true ∧
    (scan exV exI.cost false (initStateL exV exI [] 2)).best = some (1/3) ∧
    tiedLazy exV exI.cost false (initStateL exV exI [] 2) = [0] ∧
    (scan exV exI.cost false (initStateL exV exI [] 2)).dropped = [] ∧
    visit (initStateL exV exI [] 2) = [0, 1, 2] ∧
    rho exV exI.cost (fun _ => 2) 1 = some 1 := by decide +kernel

/-- the second round prices project 1 and REMOVES project 2 from the pool for good -/
example : (scan exV exI.cost false (buyLazy exV exI.cost false (initStateL exV exI [] 2) 0)).dropped = [2] ∧
    tiedLazy exV exI.cost false (buyLazy exV exI.cost false (initStateL exV exI [] 2) 0) = [1] ∧
    (buyLazy exV exI.cost false (buyLazy exV exI.cost false (initStateL exV exI [] 2) 0) 1).pool = [] := by
  decide +kernel

example : runLazy exV exI [] (fun l => .ok l) false = .ok [0, 1] ∧
    runLazy exV exI [] (fun l => .ok l) true = .ok [0, 1] ∧
    MES.run exV exI [] (fun l => .ok l) = .ok [0, 1] := by decide +kernel

/-- two voters with cardinal satisfaction 2 for what they support -/
def exV2 : VCtx := ⟨[0, 1], fun _ => 1, fun i p => if p = 0 ∨ (p = 1 ∧ i = 0) then 2 else 0⟩
def exI2 : Inst := ⟨[0, 1], fun p => if p = 0 then 3 else 1, 4⟩

/-- the shortcut applies to both projects; with voter 1 too poor the sweep goes past the first
    supporter; the stored value 3/4 is strictly below the true price 1 (the invariant is not an
    equality) -/
example : allSame exV2 0 = true ∧ allSame exV2 1 = true ∧
    rhoBinary exV2 exI2.cost (fun i => if i = 0 then 2 else 1) 0 = some 1 ∧
    rho exV2 exI2.cost (fun i => if i = 0 then 2 else 1) 0 = some 1 ∧
    initAff exV2 exI2 0 = 3/4 := by decide +kernel

example : runLazy exV2 exI2 [] (fun l => .ok l) true = MES.run exV2 exI2 [] (fun l => .ok l) ∧
    runAllLazy exV2 exI2 [] (fun l => .ok l) true = MES.runAll exV2 exI2 [] (fun l => .ok l) ∧
    MES.run exV2 exI2 [] (fun l => .ok l) = .ok [1, 0] := by decide +kernel

end Pabu.C02Lazy
