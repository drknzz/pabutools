/-
  C04 — the welfare maximiser returns an optimum (primal/dual knapsack path).

  * `Knap.solve_optimal`: on items sorted by efficiency (profit/weight, descending) with positive weights,
    non-negative profits and a non-negative capacity, the value returned by the branch-and-bound equals the
    maximum profit over all sub-lists of the index range that fit the capacity, and the returned index list
    (if any) is such a sub-list attaining it.
  * `MaxWelfare.primalDual_*`: the allocation returned by `max_additive_utilitarian_welfare_primal_dual_scheme`
    is feasible, extends the initial allocation, has no duplicates, and its welfare equals the brute-force
    optimum `optValue` over all feasible allocations extending the initial one — for ALL real profits: total
    satisfactions may be negative (cardinal ballots with negative scores).  Only projects of positive cost and
    non-negative profit are handed to the knapsack; `dropNegative` is why that loses nothing: dropping the
    projects of negative profit from a feasible extension keeps it feasible (costs ≥ 0) and does not lower
    its welfare.  (A hypothesis `∀ p, 0 ≤ profit p` would exclude exactly the elections on which the unrepaired
    code was wrong — defect D45, `PabuProofs/Mutants/C04.lean`.)
-/
import PabuProofs.Lemmas.KnapsackLift
namespace Pabu

namespace Knap

/-- Optimality of the primal/dual branch-and-bound over index sub-lists: the returned value is the brute-force
    optimum `optSpec`, and a returned list attains it. -/
theorem solve_optimal (items : Array Item) (cap : Rat) (h : Sorted items) (hcap : 0 ≤ cap) :
    (∀ s ∈ sublists (List.range items.size), sumOver s (pw items) ≤ cap →
        sumOver s (pp items) ≤ (solve items cap).1) ∧
    (∃ s ∈ sublists (List.range items.size), sumOver s (pw items) ≤ cap ∧
        sumOver s (pp items) = (solve items cap).1) ∧
    (∀ S, (solve items cap).2 = some S →
        S ∈ sublists (List.range items.size) ∧ sumOver S (pw items) ≤ cap ∧
          sumOver S (pp items) = (solve items cap).1) ∧
    ((solve items cap).2 = none → (solve items cap).1 = 0) ∧
    (solve items cap).1 = optSpec items cap :=
  ⟨fun s hs hw => solve_ge_list items h cap s hs hw, solve_attained items cap hcap,
   fun S hS => solve_some items cap S hS, fun hS => solve_none items cap hS,
   solve_eq_optSpec items h cap hcap⟩

theorem solve_optimal_indicator (items : Array Item) (cap : Rat) (h : Sorted items)
    (Y : Nat → Bool) (hY : weightY items Y ≤ cap) : profitY items Y ≤ (solve items cap).1 :=
  solve_ge items h cap Y hY

/-- The returned list is sound without any hypothesis on the items (no sortedness needed). -/
theorem solve_sound (items : Array Item) (cap : Rat) (S : List Nat) (hS : (solve items cap).2 = some S) :
    S.Pairwise (· < ·) ∧ S.Nodup ∧ (∀ i ∈ S, i < items.size) ∧
      sumOver S (pw items) ≤ cap ∧ sumOver S (pp items) = (solve items cap).1 := by
  obtain ⟨h1, h2, h3, h4⟩ := solve_sorted items cap S hS
  exact ⟨h1, h1.imp (fun h => Nat.ne_of_lt h), h2, h4, h3⟩

/-! non-vacuity: a concrete sorted item array (efficiencies 3/2 > 4/3 > 5/4 > 6/5), capacity 7 -/
example : Sorted #[⟨2, 3⟩, ⟨3, 4⟩, ⟨4, 5⟩, ⟨5, 6⟩] ∧ (0 : Rat) ≤ 7 :=
  ⟨sorted_toArray (by decide +kernel) (by decide +kernel) (by decide +kernel), by decide +kernel⟩

end Knap

namespace MaxWelfare

variable (I : Inst) (profit : Pid → Rat) (init enum : List Pid)

/-- C01 for this rule: the returned allocation respects the budget limit. -/
theorem primalDual_feasible
    (hcost : ∀ p ∈ I.projects, 0 ≤ I.cost p)
    (hinit : I.isFeasible init = true) (hperm : enum.Perm I.projects) (hnd : enum.Nodup) :
    I.isFeasible (primalDual I profit init enum) = true :=
  PDHyp.feasible ⟨hcost, hinit, hperm, hnd⟩

theorem primalDual_contains_init : init <+: primalDual I profit init enum :=
  init_prefix I profit init enum

theorem primalDual_nodup
    (hcost : ∀ p ∈ I.projects, 0 ≤ I.cost p)
    (hinit : I.isFeasible init = true) (hperm : enum.Perm I.projects) (hnd : enum.Nodup)
    (hinitnd : init.Nodup) :
    (primalDual I profit init enum).Nodup :=
  PDHyp.nodup ⟨hcost, hinit, hperm, hnd⟩ hinitnd

/-- Projects of negative profit are never needed: dropping them from a feasible extension of `init` keeps it
    feasible and does not lower the welfare.  (Costs ≥ 0 is needed: with a negative cost, dropping a project
    could break the budget.) -/
theorem dropNegative
    (hcost : ∀ p ∈ I.projects, 0 ≤ I.cost p)
    (hinit : I.isFeasible init = true) (hperm : enum.Perm I.projects) (hnd : enum.Nodup)
    (s : List Pid) (hs : s ∈ sublists (I.projects.filter (fun p => !init.contains p)))
    (hf : I.isFeasible (init ++ s) = true) :
    s.filter (fun p => decide (0 ≤ profit p)) ∈ sublists (I.projects.filter (fun p => !init.contains p)) ∧
    (∀ x ∈ s.filter (fun p => decide (0 ≤ profit p)), 0 ≤ profit x) ∧
    I.isFeasible (init ++ s.filter (fun p => decide (0 ≤ profit p))) = true ∧
    sumOver s profit ≤ sumOver (s.filter (fun p => decide (0 ≤ profit p))) profit :=
  PDHyp.dropNeg (profit := profit) ⟨hcost, hinit, hperm, hnd⟩ hs hf

/-- Optimality: the welfare of the returned allocation equals the maximum of the welfare over all feasible
    allocations `init ++ s`, `s` a sub-list of the projects outside `init`. -/
theorem primalDual_optimal
    (hcost : ∀ p ∈ I.projects, 0 ≤ I.cost p)
    (hinit : I.isFeasible init = true) (hperm : enum.Perm I.projects) (hnd : enum.Nodup) :
    sumOver (primalDual I profit init enum) profit = optValue I profit init :=
  PDHyp.optimal ⟨hcost, hinit, hperm, hnd⟩

theorem primalDual_dominates
    (hcost : ∀ p ∈ I.projects, 0 ≤ I.cost p)
    (hinit : I.isFeasible init = true) (hperm : enum.Perm I.projects) (hnd : enum.Nodup)
    (s : List Pid) (hs : s ∈ sublists (I.projects.filter (fun p => !init.contains p)))
    (hf : I.isFeasible (init ++ s) = true) :
    sumOver (init ++ s) profit ≤ sumOver (primalDual I profit init enum) profit := by
  have H : PDHyp I profit init enum := ⟨hcost, hinit, hperm, hnd⟩
  rw [H.value, sumOver_append]
  have := H.upper hs hf
  linarith

/-- The returned allocation is, up to the order of its elements, one of the welfare-maximal feasible
    allocations enumerated by the irresolute specification `allOptima`. -/
theorem primalDual_in_allOptima
    (hcost : ∀ p ∈ I.projects, 0 ≤ I.cost p)
    (hinit : I.isFeasible init = true) (hperm : enum.Perm I.projects) (hnd : enum.Nodup) :
    ∃ a ∈ allOptima I profit init, a.Perm (primalDual I profit init enum) := by
  have H : PDHyp I profit init enum := ⟨hcost, hinit, hperm, hnd⟩
  exact ⟨init ++ pdAdded I profit init enum,
    mem_allOptima.mpr ⟨_, List.filter_sublist, H.added_feasible, rfl, (sumOver_perm H.added_perm profit).trans H.optimal⟩,
    H.added_perm⟩

/-! non-vacuity: 6 projects (one zero-cost with positive profit, one zero-cost with zero profit, one of
    positive cost with NEGATIVE profit, one zero-cost with negative profit), fractional cost and profit,
    a non-empty feasible initial allocation, a non-identity enumeration -/
example : ∃ (I : Inst) (profit : Pid → Rat) (init enum : List Pid),
    (∀ p ∈ I.projects, 0 ≤ I.cost p) ∧ (∃ p ∈ I.projects, profit p < 0 ∧ 0 < I.cost p) ∧
    (∃ p ∈ I.projects, profit p < 0 ∧ I.cost p = 0) ∧
    I.isFeasible init = true ∧ enum.Perm I.projects ∧ enum.Nodup ∧ init.Nodup ∧
    init ≠ [] ∧ enum ≠ I.projects := by
  refine ⟨⟨[0, 1, 2, 3, 4, 5], fun p => match p with | 0 => 0 | 1 => 5/2 | 2 => 3 | 3 => 0 | 4 => 4 | _ => 0, 7⟩,
    fun p => match p with | 0 => 2 | 1 => 7/3 | 2 => 4 | 3 => 0 | 4 => -3/2 | _ => -1, [2], [3, 1, 5, 4, 0, 2], ?_⟩
  exact ⟨by decide +kernel, ⟨4, by decide +kernel⟩, ⟨5, by decide +kernel⟩, by decide +kernel, by decide +kernel,
    by decide +kernel, by decide +kernel, by decide +kernel, by decide +kernel⟩

end MaxWelfare
end Pabu
