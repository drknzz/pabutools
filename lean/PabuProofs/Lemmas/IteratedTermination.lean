/-
  Lemmas for the termination of the iterated Method of Equal Shares (C09, `MES.iterated`).

  The argument: when the per-voter budget `b` is at least the total cost of the buyable pool
  (`MES.initPool`), every supporter alone can pay for every remaining pool project in every reachable
  state, so
  * every remaining pool project has a price (`rich_affordable`), hence something is tied while the
    pool is non-empty (`rich_progress`);
  * the run (fuel = pool length, the pool shrinks strictly) ends with an EMPTY pool
    (`RoundRule.run_exhausts`, `RoundRule.runAll_exhausts` in Lemmas/RoundRule.lean);
  * the outcome contains the whole pool (`runAt_buys_pool`, `runAllAt_buys_pool`) and is therefore
    exhaustive over it (`isExhaustiveOver_of_subset` in Lemmas/Election.lean).

  The invariant `Rich` that carries this: nobody is overdrawn, every voter still holds at least the
  total cost of the REMAINING pool, and every project of the initial pool is in the pool or bought.
  It is preserved by a purchase because a single voter (multiplicity ≥ 1) never pays more than the
  project's cost (`pay_le_cost` in Lemmas/MES.lean).
-/
import PabuProofs.Lemmas.Tie
namespace Pabu
namespace MES

/-! ### The invariant -/

/-- state invariant at a generous per-voter budget, relative to the initial pool `pool0` -/
structure Rich (V : VCtx) (cost : Pid → Rat) (pool0 : List Pid) (s : State) : Prop where
  nonneg : ∀ i ∈ V.vs, 0 ≤ s.b i
  pool_pos : ∀ p ∈ s.pool, 0 < cost p
  pool_sup : ∀ p ∈ s.pool, 0 < totalSat V p
  /-- every voter still holds at least the total cost of what is left in the pool -/
  rich : ∀ i ∈ V.vs, costOf cost s.pool ≤ s.b i
  /-- nothing of the initial pool is lost: still in the pool, or bought -/
  cover : ∀ p ∈ pool0, p ∈ s.pool ∨ p ∈ s.alloc

theorem rich_affordable {V : VCtx} {cost : Pid → Rat} {pool0 : List Pid} {s : State}
    (hm : ∀ i ∈ V.vs, 1 ≤ V.m i) (h : Rich V cost pool0 s) {p : Pid} (hp : p ∈ s.pool) :
    rho V cost s.b p ≠ none := by
  intro hnone
  have hok : VOK V s.b := ⟨h.nonneg, hm⟩
  obtain ⟨i, hi⟩ := exists_supporter (h.pool_sup p hp)
  have hiV : i ∈ V.vs := (mem_supporters.mp hi).1
  -- one supporter alone holds the cost of the whole pool
  have : cost p ≤ budSum (sups V s.b p) := calc
    cost p ≤ costOf cost s.pool := le_sumOver_of_mem (fun q hq => (h.pool_pos q hq).le) hp
    _ ≤ s.b i := h.rich i hiV
    _ ≤ (V.m i : Rat) * s.b i := le_mul_of_one_le_left (h.nonneg i hiV) (Nat.one_le_cast.mpr (hm i hiV))
    _ ≤ budSum (sups V s.b p) :=
      budSum_mem_le _ (fun t ht => (sups_wf hok p t ht).1) ⟨s.b i, V.u i p, V.m i⟩
        (List.mem_map.mpr ⟨i, hi, rfl⟩)
  exact absurd ((rho_none_iff hok (h.pool_pos p hp)).mp hnone) (not_lt.mpr this)

theorem rich_progress {V : VCtx} {cost : Pid → Rat} {pool0 : List Pid} {s : State}
    (hm : ∀ i ∈ V.vs, 1 ≤ V.m i) (h : Rich V cost pool0 s) (hp : s.pool ≠ []) :
    tied V cost s ≠ [] := by
  intro hT
  obtain ⟨p, hp'⟩ := List.exists_mem_of_ne_nil _ hp
  exact rich_affordable hm h hp' (tied_nil_iff.mp hT p hp')

theorem rich_buy {V : VCtx} {cost : Pid → Rat} {pool0 : List Pid} {s : State} {t : Pid}
    (hm : ∀ i ∈ V.vs, 1 ≤ V.m i) (h : Rich V cost pool0 s) (ht : t ∈ tied V cost s) :
    Rich V cost pool0 (buy V cost s t) := by
  obtain ⟨r, hr, _⟩ := tied_rho ht
  have htp := tied_sub_pool ht
  have hc : 0 < cost t := h.pool_pos t htp
  rw [buy_some hr]
  refine ⟨fun i hi => sub_nonneg.mpr (pay_le V s.b t r i (h.nonneg i hi)),
    fun p hp => h.pool_pos p (List.mem_filter.mp hp).1,
    fun p hp => h.pool_sup p (List.mem_filter.mp hp).1, fun i hi => ?_, fun p hp => ?_⟩
  · -- the pool loses at least `cost t`, the voter at most `cost t`
    have h1 := pay_le_cost ⟨h.nonneg, hm⟩ hc hr hi
    have h3 := sumOver_filter_ne_le cost t s.pool (fun q hq => (h.pool_pos q hq).le) htp
    exact le_sub_iff_add_le.mpr (le_trans (add_le_add (le_refl _) h1) (le_trans h3 (h.rich i hi)))
  · by_cases hpt : p = t
    · exact .inr (List.mem_append_right _ (List.mem_singleton.mpr hpt))
    · exact (h.cover p hp).imp (fun h1 => List.mem_filter.mpr ⟨h1, by simpa using hpt⟩)
        (List.mem_append_left _)

theorem rich_init (V : VCtx) (I : Inst) (init : List Pid) {b0 : Rat}
    (hb : costOf I.cost (initPool V I init) ≤ b0) :
    Rich V I.cost (initPool V I init) (initState V I init b0) :=
  have hpos : ∀ p ∈ initPool V I init, 0 < I.cost p := fun _ hp => (mem_initPool.mp hp).2.2.2
  ⟨fun _ _ => le_trans (costOf_nonneg fun p hp => (hpos p hp).le) hb, hpos,
    fun _ hp => (mem_initPool.mp hp).2.2.1, fun _ _ => hb, fun _ hp => .inl hp⟩

theorem Rich.alloc_of_pool_nil {V : VCtx} {cost : Pid → Rat} {pool0 : List Pid} {s : State}
    (h : Rich V cost pool0 s) (hpool : s.pool = []) : ∀ p ∈ pool0, p ∈ s.alloc := fun p hp =>
  (h.cover p hp).resolve_left fun h1 => List.not_mem_nil (hpool ▸ h1)

/-! ### With enough money everything buyable is bought -/

theorem rule_dec (V : VCtx) (cost : Pid → Rat) (s : State) (t : Pid)
    (ht : t ∈ (rule V cost).tied s) :
    ((rule V cost).pool ((rule V cost).buy s t)).length < ((rule V cost).pool s).length :=
  buy_pool_length_lt (V := V) (cost := cost) (tied_sub_pool ht)

/-- resolute: if the per-voter budget `b0` is at least the total cost of the buyable pool, the
    outcome contains every project of the pool -/
theorem runAt_buys_pool {V : VCtx} {I : Inst} {init : List Pid}
    {order : List Pid → Except Err (List Pid)}
    (hm : ∀ i ∈ V.vs, 1 ≤ V.m i)
    (hord : ∀ T l, order T = .ok l → ∀ x ∈ l, x ∈ T)
    (hne : ∀ T, T ≠ [] → order T ≠ .ok [])
    {b0 : Rat} (hb : costOf I.cost (initPool V I init) ≤ b0) {W : List Pid}
    (hW : runAt V I init order b0 = .ok W) : ∀ p ∈ initPool V I init, p ∈ W := by
  obtain ⟨s', hs', rfl, hpool⟩ := RoundRule.run_exhausts (rule V I.cost) (orderIfTie order)
    (Rich V I.cost (initPool V I init)) (orderIfTie_mem hord) (TieL.orderIfTie_ne_nil hne)
    (fun s t hs ht => rich_buy hm hs ht) (fun s hs hp => rich_progress hm hs hp)
    (rule_dec V I.cost) _ _ W (rich_init V I init hb) (le_refl _) hW
  exact hs'.alloc_of_pool_nil hpool

/-- irresolute: there is at least one outcome, and EVERY outcome contains every project of the pool -/
theorem runAllAt_buys_pool {V : VCtx} {I : Inst} {init : List Pid}
    {order : List Pid → Except Err (List Pid)}
    (hm : ∀ i ∈ V.vs, 1 ≤ V.m i)
    (hord : ∀ T l, order T = .ok l → ∀ x ∈ l, x ∈ T)
    (hne : ∀ T, T ≠ [] → order T ≠ .ok [])
    {b0 : Rat} (hb : costOf I.cost (initPool V I init) ≤ b0) {Ws : List (List Pid)}
    (hWs : runAllAt V I init order b0 = .ok Ws) :
    Ws ≠ [] ∧ ∀ W ∈ Ws, ∀ p ∈ initPool V I init, p ∈ W := by
  unfold runAllAt at hWs
  cases hr : (rule V I.cost).runAll (orderIfTie order) (initPool V I init).length
      (initState V I init b0) with
  | error e => rw [hr] at hWs; cases hWs
  | ok Ls =>
    rw [hr] at hWs
    cases hWs
    obtain ⟨hnil, hall⟩ := RoundRule.runAll_exhausts (rule V I.cost) (orderIfTie order)
      (Rich V I.cost (initPool V I init)) (orderIfTie_mem hord) (TieL.orderIfTie_ne_nil hne)
      (fun s t hs ht => rich_buy hm hs ht) (fun s hs hp => rich_progress hm hs hp)
      (rule_dec V I.cost) _ _ Ls (rich_init V I init hb) (le_refl _) hr
    refine ⟨fun h => hnil (List.map_eq_nil_iff.mp (dedup_eq_nil.mp h)), fun W hW p hp => ?_⟩
    obtain ⟨W0, hW0, rfl⟩ := mem_canonOutcomes_iff.mp hW
    obtain ⟨s', hs', rfl, hpool⟩ := hall W0 hW0
    exact mem_sortIds.mpr (hs'.alloc_of_pool_nil hpool p hp)

end MES

end Pabu
