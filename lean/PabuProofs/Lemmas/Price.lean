/-
  Lemmas about the price-system validator.  Rounding: `round2` is within 1/200 and monotone, and the two ties next to 0
  go to 0, so the sign of `round_cmp(x, y, 2)` (which rounds the DIFFERENCE) is decided exactly at half a cent.  Hence each
  rounded test of the validator is the exact condition up to half a cent, and `validateRelaxed_iff` says in exact terms
  what is accepted: everything exact, everything less than half a cent off, nothing off by more than half a cent.
-/
import PabuModel.Price
import PabuProofs.Lemmas.Basic
namespace Pabu.Price

theorem rhe_cases (y : Rat) :
    (roundHalfEven y = y.floor ∧ y - (y.floor : Rat) ≤ 1 / 2) ∨
    (roundHalfEven y = y.floor + 1 ∧ 1 / 2 ≤ y - (y.floor : Rat)) := by
  unfold roundHalfEven
  by_cases h1 : y - (y.floor : Rat) < 1 / 2
  · left; rw [if_pos h1]; exact ⟨rfl, le_of_lt h1⟩
  · rw [if_neg h1]
    by_cases h2 : 1 / 2 < y - (y.floor : Rat)
    · right; rw [if_pos h2]; exact ⟨rfl, le_of_lt h2⟩
    · rw [if_neg h2]
      by_cases h3 : y.floor % 2 = 0
      · left; rw [if_pos h3]; exact ⟨rfl, not_lt.mp h2⟩
      · right; rw [if_neg h3]; exact ⟨rfl, not_lt.mp h1⟩

theorem rhe_close (y : Rat) : |(roundHalfEven y : Rat) - y| ≤ 1 / 2 := by
  rcases rhe_cases y with ⟨h, hh⟩ | ⟨h, hh⟩
  · rw [h, abs_sub_comm, abs_of_nonneg (sub_nonneg.mpr (Rat.floor_le y))]
    exact hh
  · have hl := Rat.lt_floor_add_one y
    rw [h, abs_of_nonneg (sub_nonneg.mpr (le_of_lt hl))]
    push_cast
    linarith

theorem rhe_mono {x y : Rat} (h : x ≤ y) : roundHalfEven x ≤ roundHalfEven y := by
  -- each value is within 1/2 of its argument: were the two integers in the reverse order, `y ≤ x` would follow
  by_contra hlt
  have h1 : ((roundHalfEven y : Int) : Rat) + 1 ≤ roundHalfEven x := by exact_mod_cast not_le.mp hlt
  have hx := (abs_le.mp (rhe_close x)).2
  have hy := (abs_le.mp (rhe_close y)).1
  have hxy : x = y := le_antisymm h (by linarith)
  rw [hxy] at hlt
  exact hlt le_rfl

theorem round2_close (x : Rat) : |round2 x - x| ≤ 1 / 200 := by
  unfold round2
  have h := rhe_close (x * 100)
  rw [abs_le] at h ⊢
  constructor <;> linarith

theorem round2_mono {x y : Rat} (h : x ≤ y) : round2 x ≤ round2 y := by
  unfold round2
  have h1 : x * 100 ≤ y * 100 := by linarith
  have h2 : ((roundHalfEven (x * 100) : Int) : Rat) ≤ ((roundHalfEven (y * 100) : Int) : Rat) := by
    exact_mod_cast rhe_mono h1
  linarith

theorem round2_lt_of_gap {x y : Rat} (h : x + 1 / 100 < y) : round2 x < round2 y := by
  have hx := (abs_le.mp (round2_close x)).2
  have hy := (abs_le.mp (round2_close y)).1
  linarith

/-- the two ties next to 0 go to the even cent 0 -/
theorem round2_half_cent : round2 (1 / 200) = 0 ∧ round2 (-(1 / 200)) = 0 := by decide +kernel

theorem round2_pos_iff {x : Rat} : 0 < round2 x ↔ 1 / 200 < x := by
  constructor
  · intro h
    by_contra hx
    have := round2_mono (not_lt.mp hx)
    rw [round2_half_cent.1] at this
    exact absurd h (not_lt.mpr this)
  · intro h
    have := (abs_le.mp (round2_close x)).1
    linarith

theorem round2_neg_iff {x : Rat} : round2 x < 0 ↔ x < -(1 / 200) := by
  constructor
  · intro h
    by_contra hx
    have := round2_mono (not_lt.mp hx)
    rw [round2_half_cent.2] at this
    exact absurd h (not_lt.mpr this)
  · intro h
    have := (abs_le.mp (round2_close x)).2
    linarith

theorem round2_eq_zero_iff {x : Rat} : round2 x = 0 ↔ |x| ≤ 1 / 200 := by
  rw [le_antisymm_iff, ← not_lt, ← not_lt, round2_pos_iff, round2_neg_iff, not_lt, not_lt, abs_le, and_comm]

theorem roundCmp_def (x y : Rat) : roundCmp x y = round2 (x - y) := rfl

theorem roundCmp_pos_iff {x y : Rat} : 0 < roundCmp x y ↔ y + 1 / 200 < x :=
  round2_pos_iff.trans lt_sub_iff_add_lt'

theorem roundCmp_neg_iff {x y : Rat} : roundCmp x y < 0 ↔ x + 1 / 200 < y :=
  round2_neg_iff.trans ⟨fun h => by linarith, fun h => by linarith⟩

theorem roundCmp_eq_zero_iff {x y : Rat} : roundCmp x y = 0 ↔ |x - y| ≤ 1 / 200 :=
  round2_eq_zero_iff

theorem roundCmp_mono {x x' y y' : Rat} (hx : x ≤ x') (hy : y' ≤ y) : roundCmp x y ≤ roundCmp x' y' := by
  unfold roundCmp
  exact round2_mono (by linarith)

/-- two numbers less than half a cent apart compare as equal, wherever they lie (in particular across a rounding
    boundary such as 2.375: the defect of the former `round(a, 2) - round(b, 2)`) -/
theorem roundCmp_eq_zero_of_close {x y : Rat} (h : |x - y| < 1 / 200) : roundCmp x y = 0 :=
  roundCmp_eq_zero_iff.mpr (le_of_lt h)

theorem roundCmp_pos_of_gt {x y : Rat} (h : y + 1 / 200 < x) : 0 < roundCmp x y :=
  roundCmp_pos_iff.mpr h

theorem roundCmp_neg_of_lt {x y : Rat} (h : x + 1 / 200 < y) : roundCmp x y < 0 :=
  roundCmp_neg_iff.mpr h

theorem roundCmp_pos_imp {x y : Rat} (h : 0 < roundCmp x y) : y + 1 / 200 ≤ x :=
  le_of_lt (roundCmp_pos_iff.mp h)

theorem roundCmp_neg_imp {x y : Rat} (h : roundCmp x y < 0) : x + 1 / 200 ≤ y :=
  le_of_lt (roundCmp_neg_iff.mp h)

theorem roundCmp_eq_zero_imp {x y : Rat} (h : roundCmp x y = 0) : |x - y| ≤ 1 / 200 :=
  roundCmp_eq_zero_iff.mp h

/-! ### each test of the validator, in exact terms -/

theorem c0a_iff (X : Input) : c0a X = true ↔ X.total ≤ X.budget := by
  simp only [c0a, Bool.not_eq_true', decide_eq_false_iff_not, not_lt]

theorem c0b_iff (X : Input) : c0b X = true ↔ ∀ c ∈ X.NW, ¬ (X.total + X.cost c ≤ X.budget) := by
  simp only [c0b, List.all_eq_true, Bool.not_eq_true', decide_eq_false_iff_not]

theorem c1_iff (X : Input) : c1 X = true ↔ ∀ v ∈ X.N, ∀ c ∈ X.C, v.app c = false → v.pay c = 0 := by
  simp only [c1, List.all_eq_true, Bool.or_eq_true, decide_eq_true_eq, or_iff_not_imp_left, Bool.not_eq_true]

theorem cNeg_iff (X : Input) : cNeg X = true ↔ ∀ v ∈ X.N, ∀ c ∈ X.C, -(1 / 200) ≤ v.pay c := by
  simp only [cNeg, List.all_eq_true, Bool.not_eq_true', decide_eq_false_iff_not, roundCmp_neg_iff, not_lt,
    neg_le_iff_add_nonneg]

theorem c2_iff (X : Input) : c2 X = true ↔ ∀ v ∈ X.N, spent X v ≤ X.b + 1 / 200 := by
  simp only [c2, List.all_eq_true, Bool.not_eq_true', decide_eq_false_iff_not, roundCmp_pos_iff, not_lt]

theorem c3_iff (X : Input) : c3 X = true ↔ ∀ c ∈ X.W, |paidFor X c - X.cost c| ≤ 1 / 200 := by
  simp only [c3, List.all_eq_true, decide_eq_true_eq, roundCmp_eq_zero_iff]

theorem c4_iff (X : Input) : c4 X = true ↔ ∀ c ∈ X.NW, |paidFor X c| ≤ 1 / 200 := by
  simp only [c4, List.all_eq_true, decide_eq_true_eq, roundCmp_eq_zero_iff, sub_zero]

theorem c5_iff (X : Input) : c5 X = true ↔ ∀ c ∈ X.NW, leftoverOf X c ≤ X.cost c + 1 / 200 := by
  simp only [c5, List.all_eq_true, Bool.not_eq_true', decide_eq_false_iff_not, roundCmp_pos_iff, not_lt]

theorem s5R_iff (X : Input) (rc : Pid → Rat) : s5R X rc = true ↔ ∀ c ∈ X.NW, stableOf X c ≤ rc c + 1 / 200 := by
  simp only [s5R, List.all_eq_true, Bool.not_eq_true', decide_eq_false_iff_not, roundCmp_pos_iff, not_lt]

theorem eNeg_iff (X : Input) : eNeg X = true ↔ ∀ v ∈ X.N, ∀ c ∈ X.C, 0 ≤ v.pay c := by
  simp only [eNeg, List.all_eq_true, decide_eq_true_eq]

theorem e2_iff (X : Input) : e2 X = true ↔ ∀ v ∈ X.N, spent X v ≤ X.b := by
  simp only [e2, List.all_eq_true, decide_eq_true_eq]

theorem e3_iff (X : Input) : e3 X = true ↔ ∀ c ∈ X.W, paidFor X c = X.cost c := by
  simp only [e3, List.all_eq_true, decide_eq_true_eq]

theorem e4_iff (X : Input) : e4 X = true ↔ ∀ c ∈ X.NW, paidFor X c = 0 := by
  simp only [e4, List.all_eq_true, decide_eq_true_eq]

theorem e5_iff (X : Input) : e5 X = true ↔ ∀ c ∈ X.NW, leftoverOf X c ≤ X.cost c := by
  simp only [e5, List.all_eq_true, decide_eq_true_eq]

theorem es5R_iff (X : Input) (rc : Pid → Rat) : es5R X rc = true ↔ ∀ c ∈ X.NW, stableOf X c ≤ rc c := by
  simp only [es5R, List.all_eq_true, decide_eq_true_eq]

/-- the shape shared by `validate`, `validateRelaxed`, `exact` and `exactRelaxed`: a conjunction of tests, the second
    read only when `exhaustive`, the last chosen by `stable` -/
theorem tests_eq_true (a b c d f g h p q stable exhaustive : Bool) :
    (a && (!exhaustive || b) && c && d && f && g && h && (if stable then p else q)) = true ↔
      a = true ∧ (exhaustive = true → b = true) ∧ c = true ∧ d = true ∧ f = true ∧ g = true ∧ h = true ∧
      (stable = false → q = true) ∧ (stable = true → p = true) := by
  have he : (!exhaustive || b) = true ↔ (exhaustive = true → b = true) := by cases exhaustive <;> simp
  have hs : (if stable then p else q) = true ↔ (stable = false → q = true) ∧ (stable = true → p = true) := by
    cases stable <;> simp
  simp only [Bool.and_eq_true, he, hs, and_assoc]

theorem validateRelaxed_iff (X : Input) (rc : Pid → Rat) (stable exhaustive : Bool) :
    validateRelaxed X rc stable exhaustive = true ↔
      X.total ≤ X.budget ∧
      (exhaustive = true → ∀ c ∈ X.NW, ¬ (X.total + X.cost c ≤ X.budget)) ∧
      (∀ v ∈ X.N, ∀ c ∈ X.C, v.app c = false → v.pay c = 0) ∧
      (∀ v ∈ X.N, ∀ c ∈ X.C, -(1 / 200) ≤ v.pay c) ∧
      (∀ v ∈ X.N, spent X v ≤ X.b + 1 / 200) ∧
      (∀ c ∈ X.W, |paidFor X c - X.cost c| ≤ 1 / 200) ∧
      (∀ c ∈ X.NW, |paidFor X c| ≤ 1 / 200) ∧
      (stable = false → ∀ c ∈ X.NW, leftoverOf X c ≤ X.cost c + 1 / 200) ∧
      (stable = true → ∀ c ∈ X.NW, stableOf X c ≤ rc c + 1 / 200) := by
  rw [validateRelaxed, tests_eq_true, c0a_iff, c0b_iff, c1_iff, cNeg_iff, c2_iff, c3_iff, c4_iff, c5_iff, s5R_iff]

theorem validate_eq_relaxed (X : Input) (stable exhaustive : Bool) :
    validate X stable exhaustive = validateRelaxed X X.cost stable exhaustive := rfl

/-- `(X.b, payments of X.N)` is a (stable) price system for `X.W`: the conditions of
    `validate_price_system` with exact comparisons -/
structure Exact (X : Input) (stable exhaustive : Bool) : Prop where
  feasible : X.total ≤ X.budget
  exhaust : exhaustive = true → ∀ c ∈ X.NW, ¬ (X.total + X.cost c ≤ X.budget)
  approved : ∀ v ∈ X.N, ∀ c ∈ X.C, v.app c = false → v.pay c = 0
  nonneg : ∀ v ∈ X.N, ∀ c ∈ X.C, 0 ≤ v.pay c
  within : ∀ v ∈ X.N, spent X v ≤ X.b
  selected : ∀ c ∈ X.W, paidFor X c = X.cost c
  unselected : ∀ c ∈ X.NW, paidFor X c = 0
  noMoney : stable = false → ∀ c ∈ X.NW, leftoverOf X c ≤ X.cost c
  stab : stable = true → ∀ c ∈ X.NW, stableOf X c ≤ X.cost c

/-- some condition is violated by at least `δ` (the exact-valued conditions C0a, C0b, C1: violated at all) -/
inductive BrokenBy (δ : Rat) (X : Input) (stable exhaustive : Bool) : Prop where
  | c0a : X.budget < X.total → BrokenBy δ X stable exhaustive
  | c0b : exhaustive = true → (∃ c ∈ X.NW, X.total + X.cost c ≤ X.budget) → BrokenBy δ X stable exhaustive
  | c1 : (∃ v ∈ X.N, ∃ c ∈ X.C, v.app c = false ∧ v.pay c ≠ 0) → BrokenBy δ X stable exhaustive
  | neg : (∃ v ∈ X.N, ∃ c ∈ X.C, v.pay c ≤ -δ) → BrokenBy δ X stable exhaustive
  | c2 : (∃ v ∈ X.N, X.b + δ ≤ spent X v) → BrokenBy δ X stable exhaustive
  | c3 : (∃ c ∈ X.W, δ ≤ |paidFor X c - X.cost c|) → BrokenBy δ X stable exhaustive
  | c4 : (∃ c ∈ X.NW, δ ≤ |paidFor X c|) → BrokenBy δ X stable exhaustive
  | c5 : stable = false → (∃ c ∈ X.NW, X.cost c + δ ≤ leftoverOf X c) → BrokenBy δ X stable exhaustive
  | s5 : stable = true → (∃ c ∈ X.NW, X.cost c + δ ≤ stableOf X c) → BrokenBy δ X stable exhaustive

theorem leftoverOf_le_stableOf (X : Input) (c : Pid) : leftoverOf X c ≤ stableOf X c := by
  unfold leftoverOf stableOf
  apply sumOver_mono
  intro v _
  by_cases h : leftover X v ≤ maxPayment X v
  · rw [if_pos h]; exact h
  · rw [if_neg h]

/-! ### `Exact` does not depend on the listing order of the allocation; the budget limit only enters C0a/C0b -/

theorem Exact.perm_W {X : Input} {stable exhaustive : Bool} (E : Exact X stable exhaustive) {W' : List Pid}
    (h : X.W.Perm W') : Exact { X with W := W' } stable exhaustive := by
  have htot : Input.total { X with W := W' } = X.total := (costOf_perm X.cost h).symm
  have hNW : Input.NW { X with W := W' } = X.NW := by
    unfold Input.NW
    apply List.filter_congr
    intro c _
    show (!W'.contains c) = !X.W.contains c
    rw [h.contains_eq]
  refine ⟨?_, ?_, E.approved, E.nonneg, E.within, ?_, ?_, ?_, ?_⟩
  · rw [htot]; exact E.feasible
  · intro he c hc
    rw [hNW] at hc
    rw [htot]
    exact E.exhaust he c hc
  · intro c hc
    exact E.selected c (h.mem_iff.mpr hc)
  · intro c hc
    rw [hNW] at hc
    exact E.unselected c hc
  · intro hs c hc
    rw [hNW] at hc
    exact E.noMoney hs c hc
  · intro hs c hc
    rw [hNW] at hc
    exact E.stab hs c hc

theorem Exact.change_budget {X : Input} {stable : Bool} (E : Exact X stable false) (B' : Rat)
    (h : X.total ≤ B') : Exact { X with budget := B' } stable false :=
  ⟨h, (fun he => by cases he), E.approved, E.nonneg, E.within, E.selected, E.unselected, E.noMoney, E.stab⟩

end Pabu.Price
