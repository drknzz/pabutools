/-
  C13 — outcomes are a function of the election alone (model side; the presentation clauses:
  enumeration order of tied / candidate sets (the hash-seed clause), insertion order of the
  projects, order of the voters).  Proofs are in PabuProofs/Lemmas/{RoundRule,InStep,Tie}.lean.

  Not covered by this file: the scaling clause of C13 (costs and budget × λ) and the welfare
  maximiser.
-/
import PabuProofs.Lemmas.Tie
import PabuModel.Sat
namespace Pabu.C13
open Pabu Pabu.TieL

/-! ### Enumeration order of tied sets (the hash-seed clause) -/

/-- the tie-breaking order of a set of tied projects does not depend on the order in which the
    set was enumerated: every rule (including `refuse`), every cost and score table -/
theorem order_enum_irrelevant (t : Tie) (cost : Pid → Rat) (score : Pid → Nat)
    {l₁ l₂ : List Pid} (h : l₁.Perm l₂) : Tie.order t cost score l₁ = Tie.order t cost score l₂ :=
  Tie.order_perm_eq t cost score h

/-- the reason: the name sort that precedes the stable key sort returns the same list -/
theorem sortIds_enum_irrelevant {l₁ l₂ : List Pid} (h : l₁.Perm l₂) : sortIds l₁ = sortIds l₂ :=
  sortIds_unique h

/-- the same through Equal Shares' "only ask on a real tie" wrapper -/
theorem orderIfTie_enum_irrelevant (t : Tie) (cost : Pid → Rat) (score : Pid → Nat)
    {l₁ l₂ : List Pid} (h : l₁.Perm l₂) :
    MES.orderIfTie (Tie.order t cost score) l₁ = MES.orderIfTie (Tie.order t cost score) l₂ :=
  (Tie.isTieOrder t cost score).orderIfTie.perm_eq _ _ h

/-- whole runs: replace the tied-set computation of a round rule by ANY enumeration `enum` of
    the same sets (one permutation per state: this is what a hash seed chooses); the resolute and
    the irresolute `Except` runs under every tie-breaking rule are unchanged, errors included -/
theorem run_enum_irrelevant {σ : Type} (R : RoundRule σ) (enum : σ → List Pid)
    (henum : ∀ s, (enum s).Perm (R.tied s)) (t : Tie) (cost : Pid → Rat) (score : Pid → Nat)
    (n : Nat) (s : σ) :
    (R.withTied enum).run (Tie.order t cost score) n s = R.run (Tie.order t cost score) n s ∧
    (R.withTied enum).runAll (Tie.order t cost score) n s =
      R.runAll (Tie.order t cost score) n s :=
  ⟨(R.sim_withTied henum).run (Tie.isTieOrder t cost score) n s s rfl,
   (R.sim_withTied henum).runAll (Tie.isTieOrder t cost score) n s s rfl⟩

/-- the same for Equal Shares, whose runs consult the rule through `orderIfTie` -/
theorem run_enum_irrelevant_ifTie {σ : Type} (R : RoundRule σ) (enum : σ → List Pid)
    (henum : ∀ s, (enum s).Perm (R.tied s)) (t : Tie) (cost : Pid → Rat) (score : Pid → Nat)
    (n : Nat) (s : σ) :
    (R.withTied enum).run (MES.orderIfTie (Tie.order t cost score)) n s =
      R.run (MES.orderIfTie (Tie.order t cost score)) n s ∧
    (R.withTied enum).runAll (MES.orderIfTie (Tie.order t cost score)) n s =
      R.runAll (MES.orderIfTie (Tie.order t cost score)) n s :=
  ⟨(R.sim_withTied henum).run (Tie.isTieOrder t cost score).orderIfTie n s s rfl,
   (R.sim_withTied henum).runAll (Tie.isTieOrder t cost score).orderIfTie n s s rfl⟩

/-! ### Insertion order of the projects -/

/-- the candidate pools are built from the name-sorted projects -/
theorem initPool_perm (V : VCtx) {ps ps' : List Pid} (h : ps.Perm ps') (c : Pid → Rat) (B : Rat)
    (init : List Pid) :
    MES.initPool V ⟨ps, c, B⟩ init = MES.initPool V ⟨ps', c, B⟩ init ∧
      MES.zeroCost V ⟨ps, c, B⟩ init = MES.zeroCost V ⟨ps', c, B⟩ init := by
  unfold MES.initPool MES.zeroCost
  simp only [sortIds_unique h, and_self]

theorem initState_perm (V : VCtx) {ps ps' : List Pid} (h : ps.Perm ps') (c : Pid → Rat) (B : Rat)
    (init : List Pid) (loads : Nat → Rat) (C : Phragmen.Ctx) (b0 : Rat) :
    MES.initState V ⟨ps, c, B⟩ init b0 = MES.initState V ⟨ps', c, B⟩ init b0 ∧
      Greedy.initState ⟨ps, c, B⟩ init = Greedy.initState ⟨ps', c, B⟩ init ∧
      Phragmen.initState C ps init loads = Phragmen.initState C ps' init loads := by
  unfold MES.initState MES.initPool MES.zeroCost Greedy.initState Phragmen.initState
  simp only [sortIds_unique h, and_self]

theorem perm_projects_mes (V : VCtx) {ps ps' : List Pid} (h : ps.Perm ps') (c : Pid → Rat)
    (B : Rat) (init : List Pid) (order : List Pid → Except Err (List Pid)) :
    MES.run V ⟨ps, c, B⟩ init order = MES.run V ⟨ps', c, B⟩ init order ∧
      MES.runAll V ⟨ps, c, B⟩ init order = MES.runAll V ⟨ps', c, B⟩ init order := by
  unfold MES.run MES.runAll MES.runAt MES.runAllAt MES.initState MES.initPool MES.zeroCost
  simp only [sortIds_unique h, and_self]

theorem perm_projects_greedy (tsat : List Pid → Rat) (score : Pid → Rat) {ps ps' : List Pid}
    (h : ps.Perm ps') (c : Pid → Rat) (B : Rat) (init : List Pid)
    (order : List Pid → Except Err (List Pid)) :
    Greedy.general tsat ⟨ps, c, B⟩ init order = Greedy.general tsat ⟨ps', c, B⟩ init order ∧
      Greedy.generalAll tsat ⟨ps, c, B⟩ init order =
        Greedy.generalAll tsat ⟨ps', c, B⟩ init order ∧
      Greedy.additive score ⟨ps, c, B⟩ init order =
        Greedy.additive score ⟨ps', c, B⟩ init order := by
  unfold Greedy.general Greedy.generalAll Greedy.additive Greedy.initState
  simp only [sortIds_unique h]
  -- what is left differs in the instance handed to `Greedy.rule`, which does not read the project list
  exact ⟨rfl, rfl, trivial⟩

theorem perm_projects_phragmen (C : Phragmen.Ctx) {ps ps' : List Pid} (h : ps.Perm ps')
    (init : List Pid) (loads : Nat → Rat) (order : List Pid → Except Err (List Pid)) :
    Phragmen.run C ps init loads order = Phragmen.run C ps' init loads order ∧
      Phragmen.runAll C ps init loads order = Phragmen.runAll C ps' init loads order := by
  unfold Phragmen.run Phragmen.runAll Phragmen.initState
  simp only [sortIds_unique h, and_self]

/-! ### Order of the voters -/

theorem sumOver_perm {α : Type} (f : α → Rat) {l l' : List α} (h : l.Perm l') :
    sumOver l f = sumOver l' f := Pabu.sumOver_perm h f

theorem sumNat_perm {α : Type} (f : α → Nat) {l l' : List α} (h : l.Perm l') :
    sumNat l f = sumNat l' f := Pabu.sumNat_perm h f

theorem mes_sums_perm {vs vs' : List Nat} (h : vs.Perm vs') (m : Nat → Nat)
    (u : Nat → Pid → Rat) (b : Nat → Rat) (p : Pid) :
    MES.totalSat ⟨vs, m, u⟩ p = MES.totalSat ⟨vs', m, u⟩ p ∧
      MES.numVoters ⟨vs, m, u⟩ = MES.numVoters ⟨vs', m, u⟩ ∧
      budSum (MES.sups ⟨vs, m, u⟩ b p) = budSum (MES.sups ⟨vs', m, u⟩ b p) ∧
      utilSum (MES.sups ⟨vs, m, u⟩ b p) = utilSum (MES.sups ⟨vs', m, u⟩ b p) ∧
      ∀ r, paySum r (MES.sups ⟨vs, m, u⟩ b p) = paySum r (MES.sups ⟨vs', m, u⟩ b p) :=
  ⟨mes_totalSat_perm h m u p, mes_numVoters_perm h m u, budSum_perm (mes_sups_perm h m u b p),
   utilSum_perm (mes_sups_perm h m u b p), fun r => paySum_perm r (mes_sups_perm h m u b p)⟩

theorem mes_rho_perm_voters {vs vs' : List Nat} (h : vs.Perm vs') {m : Nat → Nat}
    {u : Nat → Pid → Rat} {cost : Pid → Rat} {b : Nat → Rat} {p : Pid}
    (hb : ∀ i ∈ vs, 0 ≤ b i) (hm : ∀ i ∈ vs, 1 ≤ m i) (hc : 0 < cost p) :
    MES.rho ⟨vs', m, u⟩ cost b p = MES.rho ⟨vs, m, u⟩ cost b p :=
  mes_rho_perm h ⟨hb, hm⟩ hc

theorem phragmen_sums_perm {vs vs' : List Nat} (h : vs.Perm vs') (m : Nat → Nat)
    (app : Nat → Pid → Bool) (cost : Pid → Rat) (B : Rat) (s : Phragmen.State) (p : Pid) :
    Phragmen.score ⟨vs, m, app, cost, B⟩ p = Phragmen.score ⟨vs', m, app, cost, B⟩ p ∧
      Phragmen.newMax ⟨vs, m, app, cost, B⟩ s p = Phragmen.newMax ⟨vs', m, app, cost, B⟩ s p :=
  ⟨phragmen_score_perm h m app cost B p, phragmen_newMax_perm h m app cost B s p⟩

/-- the approval score used as a tie-breaking key -/
theorem approvalScore_perm {P P' : Profile} (h : P.Perm P') (p : Pid) :
    P.approvalScore p = P'.approvalScore p := Pabu.sumNat_perm h _

theorem perm_voters_phragmen {vs vs' : List Nat} (h : vs.Perm vs') (m : Nat → Nat)
    (app : Nat → Pid → Bool) (cost : Pid → Rat) (B : Rat) (projects init : List Pid)
    (loads : Nat → Rat) (order : List Pid → Except Err (List Pid)) :
    Phragmen.run ⟨vs, m, app, cost, B⟩ projects init loads order =
        Phragmen.run ⟨vs', m, app, cost, B⟩ projects init loads order ∧
      Phragmen.runAll ⟨vs, m, app, cost, B⟩ projects init loads order =
        Phragmen.runAll ⟨vs', m, app, cost, B⟩ projects init loads order := by
  unfold Phragmen.run Phragmen.runAll
  rw [phragmen_rule_perm h m app cost B]
  exact ⟨rfl, rfl⟩

theorem perm_voters_mes {vs vs' : List Nat} (h : vs.Perm vs') (m : Nat → Nat)
    (u : Nat → Pid → Rat) (I : Inst) (init : List Pid)
    (hm : ∀ i ∈ vs, 1 ≤ m i) (hcost : ∀ p ∈ I.projects, 0 ≤ I.cost p) (hB : 0 ≤ I.budget)
    (t : Tie) (cost : Pid → Rat) (score : Pid → Nat) :
    MES.run ⟨vs', m, u⟩ I init (Tie.order t cost score) =
        MES.run ⟨vs, m, u⟩ I init (Tie.order t cost score) ∧
      MES.runAll ⟨vs', m, u⟩ I init (Tie.order t cost score) =
        MES.runAll ⟨vs, m, u⟩ I init (Tie.order t cost score) := by
  unfold MES.run MES.runAll
  rw [← mes_numVoters_perm h m u]
  exact mes_runAt_perm_voters h m u I init _ hm hcost (MES.share_nonneg ⟨vs, m, u⟩ I hB)
    (Tie.isTieOrder t cost score)

/-- at any per-voter budget `b0 ≥ 0` (what the iterated variant calls) -/
theorem perm_voters_mes_at {vs vs' : List Nat} (h : vs.Perm vs') (m : Nat → Nat)
    (u : Nat → Pid → Rat) (I : Inst) (init : List Pid) (b0 : Rat)
    (hm : ∀ i ∈ vs, 1 ≤ m i) (hcost : ∀ p ∈ I.projects, 0 ≤ I.cost p) (hb0 : 0 ≤ b0)
    (t : Tie) (cost : Pid → Rat) (score : Pid → Nat) :
    MES.runAt ⟨vs', m, u⟩ I init (Tie.order t cost score) b0 =
        MES.runAt ⟨vs, m, u⟩ I init (Tie.order t cost score) b0 ∧
      MES.runAllAt ⟨vs', m, u⟩ I init (Tie.order t cost score) b0 =
        MES.runAllAt ⟨vs, m, u⟩ I init (Tie.order t cost score) b0 :=
  mes_runAt_perm_voters h m u I init b0 hm hcost hb0 (Tie.isTieOrder t cost score)

theorem perm_voters_mes_iterated {vs vs' : List Nat} (h : vs.Perm vs') (m : Nat → Nat)
    (u : Nat → Pid → Rat) (I : Inst) (init : List Pid)
    (hm : ∀ i ∈ vs, 1 ≤ m i) (hcost : ∀ p ∈ I.projects, 0 ≤ I.cost p)
    (t : Tie) (cost : Pid → Rat) (score : Pid → Nat) (inc b0 : Rat) (hinc : 0 ≤ inc)
    (hb0 : 0 ≤ b0) (fuel : Nat) :
    (∀ prev, MES.iterated ⟨vs', m, u⟩ I init (Tie.order t cost score) inc fuel b0 prev =
      MES.iterated ⟨vs, m, u⟩ I init (Tie.order t cost score) inc fuel b0 prev) ∧
    (∀ prev, MES.iteratedAll ⟨vs', m, u⟩ I init (Tie.order t cost score) inc fuel b0 prev =
      MES.iteratedAll ⟨vs, m, u⟩ I init (Tie.order t cost score) inc fuel b0 prev) :=
  mes_iterated_perm_voters h m u I init hm hcost (Tie.isTieOrder t cost score) inc hinc fuel b0 hb0

/-- satisfaction of a ballot does not depend on the order of the profile (only `Effort_Sat`
    looks at the profile at all) -/
theorem sat_perm (μ : Measure) (I : Inst) {P P' : Profile} (h : P.Perm P') (b : Ballot)
    (l : List Pid) : sat μ I P b l = sat μ I P' b l := by
  have hden : effortDenominator P = effortDenominator P' := funext (approvalScore_perm h)
  have hsp : satProject μ I P b = satProject μ I P' b := by
    funext p; unfold satProject; rw [hden]
  unfold sat; rw [hsp]

/-- greedy sees the voters only through the total-satisfaction
    function, which is a multiplicity-weighted sum over the profile entries -/
theorem perm_voters_greedy (μ : Measure) (I : Inst) {P P' : Profile} (h : P.Perm P')
    (init : List Pid) (order : List Pid → Except Err (List Pid)) :
    let tsat : Profile → List Pid → Rat :=
      fun P l => sumOver P (fun e => ((e.2 : Nat) : Rat) * sat μ I P e.1 l)
    tsat P = tsat P' ∧
      Greedy.general (tsat P) I init order = Greedy.general (tsat P') I init order ∧
      Greedy.generalAll (tsat P) I init order = Greedy.generalAll (tsat P') I init order := by
  intro tsat
  have ht : tsat P = tsat P' := funext fun l =>
    (sumOver_congr fun e _ => by rw [sat_perm μ I h]).trans (Pabu.sumOver_perm h _)
  exact ⟨ht, by rw [ht], by rw [ht]⟩

/-! ### The hypotheses are satisfiable; the statements are not vacuous -/

/-- six equal-cost projects enumerated in two different orders: the `min_cost` rule returns the
    same order for both (this is the input family on which the library's hash-seed defect shows) -/
example : [3, 1, 5, 0, 4, 2].Perm [0, 1, 2, 3, 4, 5] ∧
    Tie.order .minCost (fun _ => 7) (fun _ => 0) [3, 1, 5, 0, 4, 2] = .ok [0, 1, 2, 3, 4, 5] ∧
    Tie.order .minCost (fun _ => 7) (fun _ => 0) [0, 1, 2, 3, 4, 5] = .ok [0, 1, 2, 3, 4, 5] := by
  refine ⟨by decide, by decide +kernel, by decide +kernel⟩

/-- a permuted voter list with multiplicities ≥ 1, non-negative costs and budget; the run is the
    same and not trivial -/
example : [0, 1, 2].Perm [2, 0, 1] ∧ (∀ i ∈ [0, 1, 2], 1 ≤ (fun i => i + 1) i) ∧
    MES.run ⟨[2, 0, 1], fun i => i + 1, fun i p => if (i + p) % 2 = 0 then 1 else 0⟩
      ⟨[0, 1, 2, 3], fun p => (p : Rat), 6⟩ [3] (Tie.order .lexico (fun _ => 0) (fun _ => 0)) =
      .ok [3, 0, 1, 2] := by
  refine ⟨by decide, fun i _ => Nat.le_add_left 1 i, by decide +kernel⟩

end Pabu.C13
