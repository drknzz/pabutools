/-
  Bridge C12 — the regenerated leaf formulas of the price-system validator (Gen/C12.lean, produced from
  `validate_price_system` in the current source of pabutools/analysis/priceability.py and `round_cmp` in
  pabutools/utils.py on every run) are the formulas of the model (PabuModel/Price.lean): the rounding
  precision, `round_cmp` (the rounding function applied to the difference), the derived per-voter quantities (spent, leftover, maximal payment), every recorded
  error test (C0a, C0b, C1, negative payment, C2, C3, C4, C5, S5), the summands of the sums they compare, the
  two switches (`exhaustive`, `stable`) and the final `not errors`.  `validate` restates the whole model
  validator with every test, switch and the final verdict taken from the regenerated definitions (the quantities they
  are applied to — `Price.roundCmp`, `spent`, `paidFor`, … — are the model's, bridged one by one above it).
-/
import Gen.C12
import PabuModel.Price
import Mathlib.Tactic.NormNum
namespace Pabu.Bridge.C12
open Price

/-- `CHECK_ROUND_PRECISION`: the model's `round2` is half-even rounding to as many decimals as the constant says -/
theorem checkRoundPrecision (x : Rat) (k : Nat) (hk : (k : Rat) = Gen.C12.checkRoundPrecision) :
    round2 x = (roundHalfEven (x * 10 ^ k) : Rat) / 10 ^ k := by
  unfold Gen.C12.checkRoundPrecision at hk
  have h2 : k = 2 := by exact_mod_cast hk
  subst h2
  unfold round2
  norm_num

/-- Python's `round(x, k)` on an exact rational: half-even rounding to `k` decimals -/
def roundTo (x k : Rat) : Rat := (roundHalfEven (x * 10 ^ k.num.toNat) : Rat) / 10 ^ k.num.toNat

theorem roundTo_precision (x : Rat) : roundTo x Gen.C12.checkRoundPrecision = round2 x := by
  exact (checkRoundPrecision x 2 (by norm_num [Gen.C12.checkRoundPrecision])).symm

/-- `round_cmp`: `round(a - b, precision)` — the regenerated leaf applies the rounding function (its parameter) to the
    DIFFERENCE of the two numbers; with Python's `round` at the validator's precision it is the model's `roundCmp` -/
theorem roundCmp (a b : Rat) : Price.roundCmp a b = Gen.C12.roundCmp roundTo a b Gen.C12.checkRoundPrecision := by
  unfold Gen.C12.roundCmp
  rw [roundTo_precision]
  rfl

theorem roundCmp_leaf (round : Rat → Rat → Rat) (a b p : Rat) : Gen.C12.roundCmp round a b p = round (a - b) p := rfl

/-- `NW = [c for c in C if c not in W]` -/
theorem notSelected (X : Input) : X.NW = X.C.filter (fun c => Gen.C12.notSelected (X.W.contains c)) := rfl

/-- `spent[idx] = sum(pf[idx][c] for c in C)` -/
theorem spent (X : Input) (v : PVoter) : Price.spent X v = Gen.C12.spent (sumOver X.C v.pay) := rfl

/-- `leftover[idx] = b - spent[idx]` -/
theorem leftover (X : Input) (v : PVoter) : Price.leftover X v = Gen.C12.leftover X.b (Price.spent X v) := rfl

/-- `max_payment[idx] = max((pf[idx][c] for c in C), default=0)` -/
theorem maxPayment (X : Input) (v : PVoter) :
    Price.maxPayment X v = Gen.C12.maxPayment ((maxRat (X.C.map v.pay)).getD 0) := rfl

/-- summand of the sums compared by C3 and C4: `pf[idx][c]` over all voters -/
theorem paidFor (X : Input) (c : Pid) :
    Price.paidFor X c = sumOver X.N (fun v => Gen.C12.paidFor (v.pay c)) ∧
    Price.paidFor X c = sumOver X.N (fun v => Gen.C12.paidForUnselected (v.pay c)) := ⟨rfl, rfl⟩

/-- the sum compared by C5: `leftover[idx]` over the voters with `c in i` -/
theorem c5Summand (X : Input) (c : Pid) :
    Price.leftoverOf X c =
      sumOver (X.N.filter (fun v => Gen.C12.c5Supporter (v.app c))) (fun v => Gen.C12.c5Summand (Price.leftover X v)) := rfl

/-- the sum compared by S5: `max(max_payment[idx], leftover[idx])` over the voters with `c in i` -/
theorem s5Summand (X : Input) (c : Pid) :
    Price.stableOf X c =
      sumOver (X.N.filter (fun v => Gen.C12.s5Supporter (v.app c)))
        (fun v => Gen.C12.s5Summand (Price.maxPayment X v) (Price.leftover X v)) := by
  unfold Price.stableOf Gen.C12.s5Summand Gen.C12.s5Supporter
  congr 1
  funext v
  by_cases h : Price.leftover X v ≤ Price.maxPayment X v
  · rw [if_pos h, max_eq_left h]
  · rw [if_neg h, max_eq_right (le_of_lt (not_le.mp h))]

/-- S5 compares with `c.cost` when no relaxation is given (the model's `s5`; with a relaxation the model's test is `s5R`) -/
theorem s5Cost (cost relaxed : Rat) : Gen.C12.s5Cost true cost relaxed = cost := rfl

/-! ### the error tests (`true` in the model = the test never fired) -/

/-- C0a: `total > instance.budget_limit` -/
theorem c0a (X : Input) : Price.c0a X = !Gen.C12.c0aFails X.total X.budget := rfl

/-- C0b: `total + c.cost <= instance.budget_limit` for some `c` in `NW` -/
theorem c0b (X : Input) : Price.c0b X = X.NW.all (fun c => !Gen.C12.c0bFails X.total (X.cost c) X.budget) := rfl

/-- C1: `c not in i and pf[idx][c] != 0` -/
theorem c1 (X : Input) :
    Price.c1 X = X.N.all (fun v => X.C.all (fun c => !Gen.C12.c1Fails (v.app c) (v.pay c))) := by
  unfold Price.c1 Gen.C12.c1Fails
  congr 1
  funext v
  congr 1
  funext c
  cases v.app c <;> simp

/-- negative payment: `round_cmp(pf[idx][c], 0, CHECK_ROUND_PRECISION) < 0` -/
theorem cNeg (X : Input) :
    Price.cNeg X = X.N.all (fun v => X.C.all (fun c => !Gen.C12.negFails (Price.roundCmp (v.pay c) 0))) := rfl

/-- C2: `round_cmp(spent[idx], b, CHECK_ROUND_PRECISION) > 0` -/
theorem c2 (X : Input) :
    Price.c2 X = X.N.all (fun v => !Gen.C12.c2Fails (Price.roundCmp (Price.spent X v) X.b)) := rfl

/-- C3: `round_cmp(s, c.cost, CHECK_ROUND_PRECISION) != 0` for a selected project -/
theorem c3 (X : Input) :
    Price.c3 X = X.W.all (fun c => !Gen.C12.c3Fails (Price.roundCmp (Price.paidFor X c) (X.cost c))) := by
  unfold Price.c3 Gen.C12.c3Fails
  congr 1
  funext c
  simp

/-- C4: `round_cmp(s, 0, CHECK_ROUND_PRECISION) != 0` for a project that is not selected -/
theorem c4 (X : Input) :
    Price.c4 X = X.NW.all (fun c => !Gen.C12.c4Fails (Price.roundCmp (Price.paidFor X c) 0)) := by
  unfold Price.c4 Gen.C12.c4Fails
  congr 1
  funext c
  simp

/-- C5: `round_cmp(s, c.cost, CHECK_ROUND_PRECISION) > 0`, `s` the supporters' leftover -/
theorem c5 (X : Input) :
    Price.c5 X = X.NW.all (fun c => !Gen.C12.c5Fails (Price.roundCmp (Price.leftoverOf X c) (X.cost c))) := rfl

/-- S5: `round_cmp(s, cost, CHECK_ROUND_PRECISION) > 0`, `s` the supporters' max(leftover, largest payment) -/
theorem s5 (X : Input) :
    Price.s5 X =
      X.NW.all (fun c => !Gen.C12.s5Fails (Price.roundCmp (Price.stableOf X c) (Gen.C12.s5Cost true (X.cost c) 0))) := rfl

theorem c2_rounded (x y : Rat) : Gen.C12.c2Fails (Price.roundCmp x y) = decide (round2 (x - y) > 0) := rfl

theorem c3_rounded (x y : Rat) : Gen.C12.c3Fails (Price.roundCmp x y) = !decide (round2 (x - y) = 0) := by
  unfold Gen.C12.c3Fails Price.roundCmp
  simp

theorem c5_rounded (x y : Rat) : Gen.C12.c5Fails (Price.roundCmp x y) = decide (0 < round2 (x - y)) := by
  unfold Gen.C12.c5Fails Price.roundCmp
  simp

theorem neg_rounded (x : Rat) : Gen.C12.negFails (Price.roundCmp x 0) = decide (round2 x < 0) := by
  unfold Gen.C12.negFails Price.roundCmp
  simp

/-- `validate_price_system`: no error test fires (`return not errors`); C0b only when `exhaustive`; C5 when
    `not stable`, S5 otherwise -/
theorem validate (X : Input) (stable exhaustive : Bool) :
    Price.validate X stable exhaustive =
      Gen.C12.accepts
        ((!Gen.C12.c0aFails X.total X.budget) &&
         (!Gen.C12.checksExhaustive exhaustive ||
            X.NW.all (fun c => !Gen.C12.c0bFails X.total (X.cost c) X.budget)) &&
         X.N.all (fun v => X.C.all (fun c => !Gen.C12.c1Fails (v.app c) (v.pay c))) &&
         X.N.all (fun v => X.C.all (fun c => !Gen.C12.negFails (Price.roundCmp (v.pay c) 0))) &&
         X.N.all (fun v => !Gen.C12.c2Fails (Price.roundCmp (Price.spent X v) X.b)) &&
         X.W.all (fun c => !Gen.C12.c3Fails (Price.roundCmp (Price.paidFor X c) (X.cost c))) &&
         X.NW.all (fun c => !Gen.C12.c4Fails (Price.roundCmp (Price.paidFor X c) 0)) &&
         (if Gen.C12.plainBranch stable = true then
            X.NW.all (fun c => !Gen.C12.c5Fails (Price.roundCmp (Price.leftoverOf X c) (X.cost c)))
          else
            X.NW.all (fun c => !Gen.C12.s5Fails (Price.roundCmp (Price.stableOf X c) (Gen.C12.s5Cost true (X.cost c) 0))))) := by
  -- the generated code branches on `not stable`, the model on `stable`: swap the branches first, so that what is left
  -- after folding the tests is `Price.validate` unfolded, word for word
  have hbranch (a b : Bool) : (if (!stable) = true then a else b) = if stable = true then b else a := by
    cases stable <;> rfl
  unfold Gen.C12.accepts Gen.C12.checksExhaustive Gen.C12.plainBranch
  rw [hbranch, ← c0a, ← c0b, ← c1, ← cNeg, ← c2, ← c3, ← c4, ← c5, ← s5]
  rfl

example : Gen.C12.c5Fails (Gen.C12.roundCmp (fun x _ => x) 3 3 2) = false ∧
    Gen.C12.c3Fails (Gen.C12.roundCmp (fun x _ => x) 3 (5 / 2) 2) = true ∧
    Gen.C12.s5Summand 1 (3 / 2) = 3 / 2 ∧ Gen.C12.leftover 5 2 = 3 ∧ Gen.C12.c1Fails false 1 = true := by
  decide +kernel

/-- the leaf with Python's rounding on the pair that exposed the defect of the former formula (2.375 against
    2.375 − 10⁻¹⁵): equal -/
example : Gen.C12.roundCmp roundTo (19 / 8) (19 / 8 - 1 / 10 ^ 15) Gen.C12.checkRoundPrecision = 0 := by
  rw [← roundCmp]; decide +kernel

end Pabu.Bridge.C12
