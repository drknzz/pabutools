/-
  The canonical (strictly key-sorted) association lists and sets of the Pabulib model: the order on strings,
  `aget` / `ains` / `adel` / `keysOf` with sortedness of the keys as the one invariant, `mapOfPairs`,
  and the insertion-ordered key lists (`appendNew`, `addKeys`).
-/
import PabuModel.Pabulib
import Mathlib.Data.List.Basic
namespace Pabu.Pabulib

/-! ## the order on strings -/

theorem strLt_cons_cons (a b : Char) (as bs : Str) :
    strLt (a :: as) (b :: bs) = true ↔ a.toNat < b.toNat ∨ (a.toNat = b.toNat ∧ strLt as bs = true) := by
  rw [strLt]
  by_cases h1 : a.toNat < b.toNat
  · rw [if_pos h1]
    exact ⟨fun _ => Or.inl h1, fun _ => rfl⟩
  · rw [if_neg h1]
    by_cases h2 : b.toNat < a.toNat
    · rw [if_pos h2]
      exact ⟨fun h => Bool.noConfusion h, fun h => h.elim (fun h => absurd h h1) (fun h => absurd (h.1 ▸ h2) (Nat.lt_irrefl _))⟩
    · rw [if_neg h2]
      exact ⟨fun h => Or.inr ⟨Nat.le_antisymm (Nat.le_of_not_lt h2) (Nat.le_of_not_lt h1), h⟩, fun h => h.elim (fun h => absurd h h1) (fun h => h.2)⟩

theorem strLt_irrefl : ∀ a : Str, strLt a a = false
  | [] => rfl
  | c :: cs => by
    rw [Bool.eq_false_iff, Ne, strLt_cons_cons, strLt_irrefl cs]
    exact fun h => h.elim (Nat.lt_irrefl _) (fun h => Bool.noConfusion h.2)

theorem strLt_trans : ∀ {a b c : Str}, strLt a b = true → strLt b c = true → strLt a c = true
  | [], [], _, h, _ => Bool.noConfusion h
  | [], _ :: _, [], _, h => Bool.noConfusion h
  | [], _ :: _, _ :: _, _, _ => rfl
  | _ :: _, [], _, h, _ => Bool.noConfusion h
  | _ :: _, _ :: _, [], _, h => Bool.noConfusion h
  | x :: xs, y :: ys, z :: zs, h1, h2 => by
    rw [strLt_cons_cons] at h1 h2 ⊢
    rcases h1 with h1 | ⟨e1, h1⟩ <;> rcases h2 with h2 | ⟨e2, h2⟩
    · exact Or.inl (Nat.lt_trans h1 h2)
    · exact Or.inl (e2 ▸ h1)
    · exact Or.inl (e1 ▸ h2)
    · exact Or.inr ⟨e1.trans e2, strLt_trans h1 h2⟩

theorem strLt_total : ∀ {a b : Str}, a ≠ b → strLt a b = false → strLt b a = true
  | [], [], h, _ => absurd rfl h
  | [], _ :: _, _, h => Bool.noConfusion h
  | _ :: _, [], _, _ => rfl
  | x :: xs, y :: ys, hne, h => by
    rw [Bool.eq_false_iff, Ne, strLt_cons_cons, not_or, not_and] at h
    rw [strLt_cons_cons]
    by_cases hyx : y.toNat < x.toNat
    · exact Or.inl hyx
    · have e : x = y := Char.toNat_inj.mp (Nat.le_antisymm (Nat.le_of_not_lt hyx) (Nat.le_of_not_lt h.1))
      subst e
      exact Or.inr ⟨rfl, strLt_total (fun e => hne (by rw [e])) (Bool.eq_false_iff.mpr (h.2 rfl))⟩

theorem strLt_ne {a b : Str} (h : strLt a b = true) : a ≠ b := by
  intro e; subst e; rw [strLt_irrefl] at h; exact Bool.noConfusion h

theorem strLt_asymm {a b : Str} (h : strLt a b = true) : strLt b a = false := by
  rw [Bool.eq_false_iff]
  intro h2
  have := strLt_trans h h2
  rw [strLt_irrefl] at this
  exact Bool.noConfusion this

def Sorted (l : List Str) : Prop := l.Pairwise (fun a b => strLt a b = true)

theorem sorted_nil : Sorted [] := List.Pairwise.nil

theorem sorted_cons {a : Str} {l : List Str} : Sorted (a :: l) ↔ (∀ b ∈ l, strLt a b = true) ∧ Sorted l :=
  List.pairwise_cons

theorem sorted_of_sortedKeys : ∀ {l : List Str}, sortedKeys l = true → Sorted l
  | [], _ => sorted_nil
  | [_], _ => List.pairwise_singleton _ _
  | a :: b :: r, h => by
    rw [sortedKeys, Bool.and_eq_true] at h
    have ih := sorted_of_sortedKeys h.2
    refine sorted_cons.mpr ⟨fun x hx => ?_, ih⟩
    rcases List.mem_cons.mp hx with rfl | hx
    · exact h.1
    · exact strLt_trans h.1 ((sorted_cons.mp ih).1 x hx)

theorem sortedKeys_of_sorted : ∀ {l : List Str}, Sorted l → sortedKeys l = true
  | [], _ => rfl
  | [_], _ => rfl
  | a :: b :: r, h => by
    rw [sorted_cons] at h
    rw [sortedKeys, Bool.and_eq_true]
    exact ⟨h.1 b List.mem_cons_self, sortedKeys_of_sorted h.2⟩

theorem sorted_lt_last {l r : List Str} {k : Str} (h : Sorted (l ++ k :: r)) : ∀ x ∈ l, strLt x k = true :=
  fun x hx => (List.pairwise_append.mp h).2.2 x hx k List.mem_cons_self


/-! ## canonical maps -/

section maps
variable {β : Type}

theorem keysOf_cons (e : Str × β) (r : Map β) : keysOf (e :: r) = e.1 :: keysOf r := rfl

theorem keysOf_append (a b : Map β) : keysOf (a ++ b) = keysOf a ++ keysOf b := List.map_append

theorem mem_keysOf_iff {k : Str} {m : Map β} : k ∈ keysOf m ↔ ∃ kv ∈ m, kv.1 = k := List.mem_map

theorem aget_cons (k : Str) (e : Str × β) (r : Map β) :
    aget k (e :: r) = if k = e.1 then some e.2 else aget k r := rfl

theorem ains_cons (k : Str) (v : β) (e : Str × β) (r : Map β) :
    ains k v (e :: r) =
      if k = e.1 then (k, v) :: r else if strLt k e.1 then (k, v) :: e :: r else e :: ains k v r := rfl

theorem adel_cons (k : Str) (e : Str × β) (r : Map β) :
    adel k (e :: r) = if k = e.1 then r else e :: adel k r := rfl

/-! ### lookup and keys -/

theorem aget_eq_none_iff {k : Str} : ∀ {m : Map β}, aget k m = none ↔ k ∉ keysOf m
  | [] => ⟨fun _ => List.not_mem_nil, fun _ => rfl⟩
  | e :: r => by
    rw [aget_cons, keysOf_cons, List.mem_cons, not_or]
    by_cases h : k = e.1
    · rw [if_pos h]
      exact ⟨fun x => (nomatch x), fun x => absurd h x.1⟩
    · rw [if_neg h, aget_eq_none_iff]
      exact ⟨fun x => ⟨h, x⟩, fun x => x.2⟩

theorem aget_none_of_not_mem (k : Str) (m : Map β) (h : k ∉ keysOf m) : aget k m = none :=
  aget_eq_none_iff.mpr h

theorem mem_keysOf_iff_aget {k : Str} {m : Map β} : k ∈ keysOf m ↔ aget k m ≠ none := by
  rw [Ne, aget_eq_none_iff, not_not]

theorem mem_keysOf_of_aget {k : Str} {v : β} {m : Map β} (h : aget k m = some v) : k ∈ keysOf m :=
  mem_keysOf_iff_aget.mpr (fun e => Option.some_ne_none v (h.symm.trans e))

theorem aget_isSome_of_mem (k : Str) : ∀ m : Map β, k ∈ keysOf m → ∃ v, aget k m = some v := by
  intro m h
  exact Option.ne_none_iff_exists'.mp (mem_keysOf_iff_aget.mp h)

theorem mem_of_aget {k : Str} {v : β} : ∀ {m : Map β}, aget k m = some v → (k, v) ∈ m
  | [], h => nomatch h
  | e :: r, h => by
    rw [aget_cons] at h
    split at h
    · rename_i h1
      rw [h1, ← Option.some.inj h]
      exact List.mem_cons_self
    · exact List.mem_cons_of_mem _ (mem_of_aget h)

theorem aget_head_tail {e : Str × β} {r : Map β} (h : ∀ b ∈ keysOf r, strLt e.1 b = true) : aget e.1 r = none :=
  aget_eq_none_iff.mpr (fun hm => Bool.noConfusion ((strLt_irrefl e.1).symm.trans (h _ hm)))

theorem aget_of_mem_sorted : ∀ {m : Map β}, Sorted (keysOf m) → ∀ {p : Str × β}, p ∈ m → aget p.1 m = some p.2
  | e :: r, h, p, hp => by
    rw [keysOf_cons, sorted_cons] at h
    rw [aget_cons]
    rcases List.mem_cons.mp hp with rfl | hp
    · rw [if_pos rfl]
    · rw [if_neg (strLt_ne (h.1 p.1 (mem_keysOf_iff.mpr ⟨p, hp, rfl⟩))).symm, aget_of_mem_sorted h.2 hp]

/-! ### `ains` -/

theorem aget_ains (k k' : Str) (v : β) (m : Map β) : aget k (ains k' v m) = if k = k' then some v else aget k m := by
  induction m with
  | nil => rfl
  | cons e r ih =>
    rw [ains_cons]
    by_cases h1 : k' = e.1
    · rw [if_pos h1, aget_cons, aget_cons]
      by_cases h : k = k'
      · rw [if_pos h, if_pos h]
      · rw [if_neg h, if_neg h, if_neg (fun x => h (x.trans h1.symm))]
    · rw [if_neg h1]
      by_cases h2 : strLt k' e.1 = true
      · rw [if_pos h2, aget_cons]
      · rw [if_neg h2, aget_cons, aget_cons, ih]
        by_cases h : k = k'
        · simp only [if_pos h, if_neg (fun x => h1 (h.symm.trans x) : ¬ k = e.1)]
        · simp only [if_neg h]

theorem mem_keysOf_ains (k x : Str) (v : β) (m : Map β) : x ∈ keysOf (ains k v m) ↔ x = k ∨ x ∈ keysOf m := by
  rw [mem_keysOf_iff_aget, mem_keysOf_iff_aget, aget_ains]
  by_cases h : x = k
  · rw [if_pos h]
    exact ⟨fun _ => Or.inl h, fun _ => Option.some_ne_none v⟩
  · rw [if_neg h]
    exact ⟨Or.inr, fun h' => h'.resolve_left h⟩

theorem mem_ains {k : Str} {v : β} {x : Str × β} : ∀ {m : Map β}, x ∈ ains k v m → x = (k, v) ∨ x ∈ m
  | [], h => Or.inl (List.mem_singleton.mp h)
  | e :: r, h => by
    rw [ains_cons] at h
    split_ifs at h
    · exact (List.mem_cons.mp h).imp_right (List.mem_cons_of_mem e)
    · exact List.mem_cons.mp h
    · rcases List.mem_cons.mp h with h | h
      · exact Or.inr (h ▸ List.mem_cons_self)
      · exact (mem_ains h).imp_right (List.mem_cons_of_mem e)

theorem sorted_ains (k : Str) (v : β) (m : Map β) (h : Sorted (keysOf m)) : Sorted (keysOf (ains k v m)) := by
  induction m with
  | nil => exact List.pairwise_singleton _ _
  | cons e r ih =>
    rw [keysOf_cons, sorted_cons] at h
    rw [ains_cons]
    split_ifs with h1 h2
    · rw [keysOf_cons, h1]
      exact sorted_cons.mpr h
    · refine sorted_cons.mpr ⟨fun b hb => ?_, sorted_cons.mpr h⟩
      rcases List.mem_cons.mp hb with rfl | hb
      · exact h2
      · exact strLt_trans h2 (h.1 b hb)
    · refine sorted_cons.mpr ⟨fun b hb => ?_, ih h.2⟩
      rcases (mem_keysOf_ains k b v r).mp hb with rfl | hb
      · exact strLt_total h1 ((Bool.not_eq_true _).mp h2)
      · exact h.1 b hb

theorem ains_append_last (k : Str) (v : β) : ∀ acc : Map β, (∀ x ∈ keysOf acc, strLt x k = true) →
    ains k v acc = acc ++ [(k, v)]
  | [], _ => rfl
  | e :: r, h => by
    have he : strLt e.1 k = true := h e.1 List.mem_cons_self
    rw [ains_cons, if_neg (fun x => strLt_ne he x.symm), if_neg (by rw [strLt_asymm he]; exact Bool.noConfusion),
      ains_append_last k v r (fun x hx => h x (List.mem_cons_of_mem _ hx))]
    rfl

/-! ### `adel` -/

theorem adel_sublist (k : Str) : ∀ m : Map β, (adel k m).Sublist m
  | [] => List.Sublist.slnil
  | e :: r => by
    rw [adel_cons]
    split
    · exact List.sublist_cons_self e r
    · exact (adel_sublist k r).cons_cons e

theorem sorted_adel (k : Str) (m : Map β) (h : Sorted (keysOf m)) : Sorted (keysOf (adel k m)) :=
  List.Pairwise.sublist ((adel_sublist k m).map Prod.fst) h

theorem aget_adel (k k' : Str) : ∀ (m : Map β), Sorted (keysOf m) →
    aget k (adel k' m) = if k = k' then none else aget k m := by
  intro m
  induction m with
  | nil => exact fun _ => (ite_self _).symm
  | cons e r ih =>
    intro h
    rw [keysOf_cons, sorted_cons] at h
    rw [adel_cons, aget_cons]
    by_cases h1 : k' = e.1
    · rw [if_pos h1]
      by_cases h2 : k = k'
      · rw [if_pos h2, h2, h1]
        exact aget_head_tail h.1
      · rw [if_neg h2, if_neg (fun x => h2 (x.trans h1.symm))]
    · rw [if_neg h1, aget_cons, ih h.2]
      by_cases h3 : k = e.1
      · simp only [if_pos h3, if_neg (fun x => h1 (x.symm.trans h3) : ¬ k = k')]
      · simp only [if_neg h3]

/-! ### extensionality -/

theorem map_ext : ∀ {m₁ m₂ : Map β}, Sorted (keysOf m₁) → Sorted (keysOf m₂) →
    (∀ k, aget k m₁ = aget k m₂) → m₁ = m₂
  | [], [], _, _, _ => rfl
  | [], e :: r, _, _, h => by
    have := h e.1
    rw [aget_cons, if_pos rfl] at this
    exact nomatch this
  | e :: r, [], _, _, h => by
    have := h e.1
    rw [aget_cons, if_pos rfl] at this
    exact nomatch this
  | e₁ :: r₁, e₂ :: r₂, s₁, s₂, h => by
    rw [keysOf_cons, sorted_cons] at s₁ s₂
    -- each head key occurs in the other map, hence is not below the other head
    have ge : ∀ {e e' : Str × β} {r r' : Map β}, (∀ b ∈ keysOf r', strLt e'.1 b = true) →
        aget e.1 (e :: r) = aget e.1 (e' :: r') → e.1 = e'.1 ∨ strLt e'.1 e.1 = true := by
      intro e e' r r' s hh
      rw [aget_cons, if_pos rfl] at hh
      exact (List.mem_cons.mp (mem_keysOf_of_aget hh.symm)).imp_right (s e.1)
    have hk : e₁.1 = e₂.1 := by
      rcases ge s₂.1 (h e₁.1) with hk | h1
      · exact hk
      · rcases ge s₁.1 (h e₂.1).symm with hk | h2
        · exact hk.symm
        · exact Bool.noConfusion ((strLt_asymm h1).symm.trans h2)
    have hv : e₁.2 = e₂.2 := by
      have := h e₁.1
      rw [aget_cons, aget_cons, if_pos rfl, if_pos hk] at this
      exact Option.some.inj this
    have hr : r₁ = r₂ := by
      refine map_ext s₁.2 s₂.2 (fun k => ?_)
      by_cases hke : k = e₁.1
      · rw [hke, aget_head_tail s₁.1, hk, aget_head_tail s₂.1]
      · have := h k
        rwa [aget_cons, aget_cons, if_neg hke, if_neg (hk ▸ hke)] at this
    rw [Prod.ext hk hv, hr]

theorem ains_ains_same (k : Str) (v v' : β) {m : Map β} (h : Sorted (keysOf m)) :
    ains k v (ains k v' m) = ains k v m := by
  refine map_ext (sorted_ains _ _ _ (sorted_ains _ _ _ h)) (sorted_ains _ _ _ h) (fun x => ?_)
  rw [aget_ains, aget_ains, aget_ains]
  split <;> rfl

theorem ains_pair_idem (k1 k2 : Str) (v1 v2 : β) {m : Map β} (h : Sorted (keysOf m)) :
    ains k1 v1 (ains k2 v2 (ains k1 v1 (ains k2 v2 m))) = ains k1 v1 (ains k2 v2 m) := by
  have s2 := sorted_ains k1 v1 _ (sorted_ains k2 v2 _ h)
  refine map_ext (sorted_ains k1 v1 _ (sorted_ains k2 v2 _ s2)) s2 (fun x => ?_)
  rw [aget_ains, aget_ains, aget_ains, aget_ains]
  split_ifs <;> rfl

/-! ### `mapOfPairs`: a dict filled pair by pair -/

theorem sorted_foldl_ains : ∀ (l : List (Str × β)) (m : Map β), Sorted (keysOf m) →
    Sorted (keysOf (l.foldl (fun a e => ains e.1 e.2 a) m))
  | [], _, h => h
  | e :: l, m, h => sorted_foldl_ains l _ (sorted_ains e.1 e.2 m h)

theorem sorted_mapOfPairs (l : List (Str × β)) : Sorted (keysOf (mapOfPairs l)) :=
  sorted_foldl_ains l [] sorted_nil

theorem mem_foldl_ains {x : Str × β} : ∀ (l : List (Str × β)) (m : Map β),
    x ∈ l.foldl (fun a e => ains e.1 e.2 a) m → x ∈ m ∨ x ∈ l
  | [], _, h => Or.inl h
  | p :: ps, m, h => by
    rcases mem_foldl_ains ps _ h with h | h
    · rcases mem_ains h with h | h
      · exact Or.inr (h ▸ List.mem_cons_self)
      · exact Or.inl h
    · exact Or.inr (List.mem_cons_of_mem _ h)

theorem mem_mapOfPairs {x : Str × β} {l : List (Str × β)} (h : x ∈ mapOfPairs l) : x ∈ l :=
  (mem_foldl_ains l [] h).resolve_left List.not_mem_nil

theorem aget_foldl_ains_of_not_mem {k : Str} : ∀ (l : List (Str × β)) (m : Map β), k ∉ keysOf l →
    aget k (l.foldl (fun a e => ains e.1 e.2 a) m) = aget k m
  | [], _, _ => rfl
  | p :: ps, m, h => by
    rw [keysOf_cons, List.mem_cons, not_or] at h
    rw [List.foldl_cons, aget_foldl_ains_of_not_mem ps _ h.2, aget_ains, if_neg h.1]

/-- later pairs win; where they all agree on `k` it does not matter which -/
theorem aget_foldl_ains_of_mem {k : Str} {v : β} : ∀ (l : List (Str × β)) (m : Map β), k ∈ keysOf l →
    (∀ p ∈ l, p.1 = k → p.2 = v) → aget k (l.foldl (fun a e => ains e.1 e.2 a) m) = some v
  | [], _, hm, _ => absurd hm List.not_mem_nil
  | p :: ps, m, hm, h => by
    rw [List.foldl_cons]
    by_cases hps : k ∈ keysOf ps
    · exact aget_foldl_ains_of_mem ps _ hps (fun q hq => h q (List.mem_cons_of_mem p hq))
    · have hk : k = p.1 := (List.mem_cons.mp hm).resolve_right hps
      rw [aget_foldl_ains_of_not_mem ps _ hps, aget_ains, if_pos hk, h p List.mem_cons_self hk.symm]

theorem aget_mapOfPairs_of_not_mem {k : Str} {l : List (Str × β)} (h : k ∉ keysOf l) : aget k (mapOfPairs l) = none :=
  aget_foldl_ains_of_not_mem l [] h

theorem aget_mapOfPairs_of_mem {k : Str} {v : β} {l : List (Str × β)} (hm : (k, v) ∈ l)
    (h : ∀ p ∈ l, p.1 = k → p.2 = v) : aget k (mapOfPairs l) = some v :=
  aget_foldl_ains_of_mem l [] (mem_keysOf_iff.mpr ⟨_, hm, rfl⟩) h

theorem foldl_ains_sorted : ∀ (l acc : Map β), Sorted (keysOf (acc ++ l)) →
    l.foldl (fun a e => ains e.1 e.2 a) acc = acc ++ l
  | [], acc, _ => (List.append_nil acc).symm
  | e :: r, acc, h => by
    rw [keysOf_append, keysOf_cons] at h
    rw [List.foldl_cons, ains_append_last e.1 e.2 acc (sorted_lt_last h), foldl_ains_sorted r (acc ++ [e]),
      List.append_assoc, List.singleton_append]
    rwa [List.append_assoc, List.singleton_append, keysOf_append, keysOf_cons]

theorem mapOfPairs_sorted (m : Map β) (h : Sorted (keysOf m)) : mapOfPairs m = m :=
  foldl_ains_sorted m [] h

end maps

/-! ### the pairs of a row: header cells with the values a cell function gives them -/

theorem mem_pairsOf {keys : List Str} {cell : Str → Option Str} {p : Str × Str} :
    p ∈ pairsOf keys cell ↔ p.1 ∈ keys ∧ cell p.1 = some p.2 := by
  unfold pairsOf
  rw [List.mem_filterMap]
  constructor
  · rintro ⟨k, hk, h⟩
    obtain ⟨v, hv, rfl⟩ := Option.map_eq_some_iff.mp h
    exact ⟨hk, hv⟩
  · rintro ⟨hk, hv⟩
    exact ⟨p.1, hk, by rw [hv]; rfl⟩

theorem pairsOf_cons (h : Str) (hs : List Str) (cell : Str → Option Str) :
    pairsOf (h :: hs) cell = match cell h with
      | some v => (h, v) :: pairsOf hs cell
      | none => pairsOf hs cell := by
  unfold pairsOf
  rw [List.filterMap_cons]
  cases cell h <;> rfl

theorem aget_mapOfPairs_pairsOf (keys : List Str) (cell : Str → Option Str) (k : Str) :
    aget k (mapOfPairs (pairsOf keys cell)) = if k ∈ keys then cell k else none := by
  cases hc : cell k with
  | none =>
    rw [ite_self]
    refine aget_mapOfPairs_of_not_mem (fun hm => ?_)
    obtain ⟨p, hp, rfl⟩ := mem_keysOf_iff.mp hm
    exact nomatch hc.symm.trans (mem_pairsOf.mp hp).2
  | some v =>
    split
    · refine aget_mapOfPairs_of_mem (mem_pairsOf.mpr ⟨by assumption, hc⟩) (fun p hp e => ?_)
      have := (mem_pairsOf.mp hp).2
      rw [e, hc] at this
      exact (Option.some.inj this).symm
    · refine aget_mapOfPairs_of_not_mem (fun hm => ?_)
      obtain ⟨p, hp, rfl⟩ := mem_keysOf_iff.mp hm
      exact absurd (mem_pairsOf.mp hp).1 (by assumption)

/-! ## canonical sets and insertion-ordered lists -/

theorem sins_cons (x y : Str) (r : List Str) :
    sins x (y :: r) = if x = y then y :: r else if strLt x y then x :: y :: r else y :: sins x r := rfl

theorem sins_append_last (x : Str) : ∀ acc : List Str, (∀ y ∈ acc, strLt y x = true) → sins x acc = acc ++ [x]
  | [], _ => rfl
  | y :: r, h => by
    have he : strLt y x = true := h y List.mem_cons_self
    rw [sins_cons, if_neg (fun e => strLt_ne he e.symm), if_neg (by rw [strLt_asymm he]; exact Bool.noConfusion),
      sins_append_last x r (fun z hz => h z (List.mem_cons_of_mem _ hz))]
    rfl

theorem foldl_sins_sorted : ∀ (l acc : List Str), Sorted (acc ++ l) →
    l.foldl (fun a x => sins x a) acc = acc ++ l
  | [], acc, _ => (List.append_nil acc).symm
  | x :: r, acc, h => by
    rw [List.foldl_cons, sins_append_last x acc (sorted_lt_last h), foldl_sins_sorted r (acc ++ [x]),
      List.append_assoc, List.singleton_append]
    rwa [List.append_assoc, List.singleton_append]

theorem setOf_sorted (l : List Str) (h : Sorted l) : setOf l = l :=
  foldl_sins_sorted l [] h

theorem foldl_appendNew_nodup : ∀ (l acc : List Str), (acc ++ l).Nodup → l.foldl appendNew acc = acc ++ l
  | [], acc, _ => (List.append_nil acc).symm
  | x :: r, acc, h => by
    have hx : x ∉ acc := fun hm => (List.nodup_append.mp h).2.2 x hm x List.mem_cons_self rfl
    rw [List.foldl_cons, appendNew, if_neg hx, foldl_appendNew_nodup r (acc ++ [x]),
      List.append_assoc, List.singleton_append]
    rwa [List.append_assoc, List.singleton_append]

theorem orderedOf_nodup (l : List Str) (h : l.Nodup) : orderedOf l = l :=
  foldl_appendNew_nodup l [] h

/-! ### the column lists -/

theorem foldl_prefix {α γ : Type} {f : List α → γ → List α} (hf : ∀ acc x, ∃ t, f acc x = acc ++ t) :
    ∀ (l : List γ) (acc : List α), ∃ t, l.foldl f acc = acc ++ t
  | [], acc => ⟨[], (List.append_nil acc).symm⟩
  | x :: r, acc => by
    obtain ⟨t1, h1⟩ := hf acc x
    obtain ⟨t2, h2⟩ := foldl_prefix hf r (f acc x)
    exact ⟨t1 ++ t2, by rw [List.foldl_cons, h2, h1, List.append_assoc]⟩

theorem mem_foldl_union {α γ : Type} {f : List α → γ → List α} {g : γ → List α}
    (hf : ∀ acc x k, k ∈ f acc x ↔ k ∈ acc ∨ k ∈ g x) (k : α) :
    ∀ (l : List γ) (acc : List α), k ∈ l.foldl f acc ↔ k ∈ acc ∨ ∃ x ∈ l, k ∈ g x
  | [], acc => ⟨Or.inl, fun h => h.elim id (fun ⟨_, hx, _⟩ => absurd hx List.not_mem_nil)⟩
  | x :: t, acc => by
    rw [List.foldl_cons, mem_foldl_union hf k t, hf, or_assoc, List.exists_mem_cons_iff]

theorem mem_appendNew (acc : List Str) (x k : Str) : k ∈ appendNew acc x ↔ k ∈ acc ∨ k ∈ [x] := by
  unfold appendNew
  split
  · rename_i hx
    exact ⟨Or.inl, fun h => h.elim id (fun h => List.mem_singleton.mp h ▸ hx)⟩
  · exact List.mem_append

theorem appendNew_prefix (acc : List Str) (x : Str) : ∃ t, appendNew acc x = acc ++ t := by
  unfold appendNew
  split
  · exact ⟨[], (List.append_nil acc).symm⟩
  · exact ⟨[x], rfl⟩

theorem mem_addKeys (k : Str) (ks acc : List Str) : k ∈ addKeys acc ks ↔ k ∈ acc ∨ k ∈ ks := by
  rw [addKeys, mem_foldl_union mem_appendNew]
  exact or_congr_right ⟨fun ⟨x, hx, h⟩ => List.mem_singleton.mp h ▸ hx, fun h => ⟨k, h, List.mem_singleton_self k⟩⟩

theorem addKeys_prefix (ks acc : List Str) : ∃ t, addKeys acc ks = acc ++ t :=
  foldl_prefix appendNew_prefix ks acc

theorem mem_foldl_addKeys {γ : Type} (f : γ → List Str) (k : Str) (l : List γ) (acc : List Str) :
    k ∈ l.foldl (fun a x => addKeys a (f x)) acc ↔ k ∈ acc ∨ ∃ x ∈ l, k ∈ f x :=
  mem_foldl_union (fun acc x k => mem_addKeys k (f x) acc) k l acc

theorem foldl_addKeys_prefix {γ : Type} (f : γ → List Str) (l : List γ) (acc : List Str) :
    ∃ t, l.foldl (fun a x => addKeys a (f x)) acc = acc ++ t :=
  foldl_prefix (fun acc x => addKeys_prefix (f x) acc) l acc

theorem mem_optKey {b : Bool} {k k' : Str} : k ∈ optKey b k' ↔ b = true ∧ k = k' := by
  cases b
  · exact ⟨fun h => absurd h List.not_mem_nil, fun h => Bool.noConfusion h.1⟩
  · exact ⟨fun h => ⟨rfl, List.mem_singleton.mp h⟩, fun h => List.mem_singleton.mpr h.2⟩

end Pabu.Pabulib
