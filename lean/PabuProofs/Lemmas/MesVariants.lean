/-
  The other ways the library runs the Method of Equal Shares, reduced to the resolute run at a
  per-voter budget (`MES.runAt`), for which Lemmas/MesEJR.lean and Lemmas/PriceMes.lean hold:

  * irresolute, `runAllAt_realised`: every allocation returned by `MES.runAllAt` (any order function that
    returns members of the tied set — it may fail or skip tied projects) is the name-sorted outcome of
    `MES.runAt` under some strict order `π` over the projects (tie-breaking rule `.perm π`);
  * iterated, `iterated_ok`: `MES.iterated` returns `prev₀` (only when the first try is infeasible) or the
    feasible outcome of `MES.runAt` at some `b0 + k·inc`; started from the share `budget / n` with no initial
    projects the first case cannot occur (`iterated_share_is_runAt`).  Same for `iteratedAll`;
  `runAt_budget_irrel`, `run_scaled` relate the runs at two budget limits; the guarantees do not go through them.
-/
import PabuProofs.Properties.C08
import PabuProofs.Lemmas.Wrappers
namespace Pabu
namespace MES
open Pabu.TieL

/-! ### runs at two budget limits -/

theorem runAt_budget_irrel (V : VCtx) (I : Inst) (init : List Pid)
    (order : List Pid → Except Err (List Pid)) (b0 B' : Rat) :
    runAt V ⟨I.projects, I.cost, B'⟩ init order b0 = runAt V I init order b0 ∧
    runAllAt V ⟨I.projects, I.cost, B'⟩ init order b0 = runAllAt V I init order b0 :=
  ⟨rfl, rfl⟩

theorem run_scaled (V : VCtx) (I : Inst) (init : List Pid)
    (order : List Pid → Except Err (List Pid)) (b0 : Rat) (hn : 0 < numVoters V) :
    MES.run V ⟨I.projects, I.cost, (numVoters V : Nat) * b0⟩ init order = runAt V I init order b0 ∧
    MES.runAll V ⟨I.projects, I.cost, (numVoters V : Nat) * b0⟩ init order =
      runAllAt V I init order b0 := by
  have e : ((numVoters V : Nat) : Rat) * b0 / ((numVoters V : Nat) : Rat) = b0 :=
    mul_div_cancel_left₀ b0 (Nat.cast_ne_zero.mpr hn.ne')
  constructor
  · show runAt V ⟨I.projects, I.cost, _⟩ init order (((numVoters V : Nat) : Rat) * b0 / _) = _
    rw [e]; rfl
  · show runAllAt V ⟨I.projects, I.cost, _⟩ init order (((numVoters V : Nat) : Rat) * b0 / _) = _
    rw [e]; rfl

/-! ### irresolute: every returned allocation is a resolute outcome under a strict order -/

/-- the adapter to C08; the tie-breaking function `Tie.order (.perm π)` of the conclusion returns members of the
    tied set and is non-empty on a non-empty set (`Tie.order_mem`, `Tie.order_ne_nil`) -/
theorem runAllAt_realised {V : VCtx} {I : Inst} {init : List Pid}
    {order : List Pid → Except Err (List Pid)}
    (hord : ∀ T l, order T = .ok l → ∀ x ∈ l, x ∈ T) (hP : I.projects.Nodup)
    (cost' : Pid → Rat) (score' : Pid → Nat) {b0 : Rat} {L : List (List Pid)}
    (hL : runAllAt V I init order b0 = .ok L) :
    ∀ W' ∈ L, ∃ π : List Pid, π.Perm I.projects ∧
      ∃ W, runAt V I init (Tie.order (.perm π) cost' score') b0 = .ok W ∧ W' = sortIds W := by
  intro W' hW'
  unfold runAllAt at hL
  cases hraw : (rule V I.cost).runAll (orderIfTie order) (initPool V I init).length
      (initState V I init b0) with
  | error e => rw [hraw] at hL; cases hL
  | ok L0 =>
    rw [hraw] at hL
    have hL' : canonOutcomes L0 = L := Except.ok.inj hL
    rw [← hL'] at hW'
    obtain ⟨W0, hW0, rfl⟩ := mem_canonOutcomes_iff.mp hW'
    have hmem := (rule V I.cost).runAll_sub_runAllP (orderIfTie order) (orderIfTie_mem hord)
      _ _ L0 hraw W0 hW0
    obtain ⟨π, hπ, hrun⟩ := C08.irresolute_complete _ (mes_rule_wf V I.cost) _ _ I.projects hP
      (C08.mes_pool_sub V I init b0) W0 hmem
    refine ⟨π, hπ, W0, ?_, rfl⟩
    rw [C08.mes_runAt_perm V I init b0 π (fun x hx => hπ.mem_iff.mpr hx) cost' score', hrun]

/-! ### iterated: the returned allocation is the outcome of a run at some `b0 + k·inc` -/

theorem le_try {b inc : Rat} (hinc : 0 ≤ inc) (k : Nat) : b ≤ b + k * inc :=
  le_add_of_nonneg_right (mul_nonneg (Nat.cast_nonneg k) hinc)

theorem iterated_ok {V : VCtx} {I : Inst} {init : List Pid}
    {order : List Pid → Except Err (List Pid)} {inc : Rat} {fuel : Nat} {b0 : Rat} {prev W : List Pid}
    (h : iterated V I init order inc fuel b0 prev = .ok W) :
    (W = prev ∧ ∃ W0, runAt V I init order b0 = .ok W0 ∧ I.isFeasible W0 = false) ∨
      ∃ k : Nat, runAt V I init order (b0 + k * inc) = .ok W ∧ I.isFeasible W = true := by
  rw [Wrap.iterated_eq_loop] at h
  simpa only [Bool.false_eq_true, false_or, true_and, Bool.not_eq_true', Bool.not_eq_false'] using
    Wrap.loop_ok _ _ _ _ h

theorem iteratedAll_ok {V : VCtx} {I : Inst} {init : List Pid}
    {order : List Pid → Except Err (List Pid)} {inc : Rat} {fuel : Nat} {b0 : Rat}
    {prev Ws : List (List Pid)} (h : iteratedAll V I init order inc fuel b0 prev = .ok Ws) :
    (Ws = prev ∧ ∃ W0, runAllAt V I init order b0 = .ok W0 ∧ ∃ W ∈ W0, I.isFeasible W = false) ∨
      ∃ k : Nat, runAllAt V I init order (b0 + k * inc) = .ok Ws ∧ ∀ W ∈ Ws, I.isFeasible W = true := by
  rw [Wrap.iteratedAll_eq_loop] at h
  simpa only [Bool.false_eq_true, false_or, true_and, List.any_eq_true, List.any_eq_false, Bool.not_eq_true',
    Bool.not_eq_false] using Wrap.loop_ok _ _ _ _ h

theorem iterated_is_runAt {V : VCtx} {I : Inst} {init : List Pid}
    {order : List Pid → Except Err (List Pid)} {inc : Rat} :
    ∀ (fuel : Nat) (b0 : Rat) (prev W : List Pid),
      iterated V I init order inc fuel b0 prev = .ok W →
      W = prev ∨ ∃ k : Nat, runAt V I init order (b0 + k * inc) = .ok W ∧ I.isFeasible W = true :=
  fun _ _ _ _ h => (iterated_ok h).imp_left And.left

theorem iteratedAll_is_runAllAt {V : VCtx} {I : Inst} {init : List Pid}
    {order : List Pid → Except Err (List Pid)} {inc : Rat} :
    ∀ (fuel : Nat) (b0 : Rat) (prev Ws : List (List Pid)),
      iteratedAll V I init order inc fuel b0 prev = .ok Ws →
      Ws = prev ∨ ∃ k : Nat, runAllAt V I init order (b0 + k * inc) = .ok Ws ∧
        ∀ W ∈ Ws, I.isFeasible W = true :=
  fun _ _ _ _ h => (iteratedAll_ok h).imp_left And.left

/-! ### started from the share, with no initial projects, the first try is feasible -/

theorem iterated_share_is_runAt {V : VCtx} {I : Inst} (h : InputOK V I [])
    {order : List Pid → Except Err (List Pid)}
    (hord : ∀ T l, order T = .ok l → ∀ x ∈ l, x ∈ T) (hB : 0 ≤ I.budget) {inc : Rat}
    {fuel : Nat} {prev W : List Pid}
    (hW : iterated V I [] order inc fuel (I.budget / (numVoters V : Nat)) prev = .ok W) :
    ∃ k : Nat, runAt V I [] order (I.budget / (numVoters V : Nat) + k * inc) = .ok W ∧
      I.isFeasible W = true :=
  (iterated_ok hW).resolve_left fun ⟨_, _, hr, hinf⟩ =>
    Bool.false_ne_true (hinf.symm.trans (runAt_share_feasible h hord hB hr))

theorem iteratedAll_share_is_runAllAt {V : VCtx} {I : Inst} (h : InputOK V I [])
    {order : List Pid → Except Err (List Pid)}
    (hord : ∀ T l, order T = .ok l → ∀ x ∈ l, x ∈ T) (hB : 0 ≤ I.budget) {inc : Rat}
    {fuel : Nat} {prev Ws : List (List Pid)}
    (hW : iteratedAll V I [] order inc fuel (I.budget / (numVoters V : Nat)) prev = .ok Ws) :
    ∃ k : Nat, runAllAt V I [] order (I.budget / (numVoters V : Nat) + k * inc) = .ok Ws ∧
      ∀ W ∈ Ws, I.isFeasible W = true :=
  (iteratedAll_ok hW).resolve_left fun ⟨_, _, hr, W, hW0, hinf⟩ =>
    Bool.false_ne_true (hinf.symm.trans (runAllAt_share_feasible h hord hB hr W hW0))

/-! ### a non-empty initial allocation is kept in every mode

(Equal Shares ignores the COST of the initial allocation — DESIGN.md §10.4 — so the proportionality and
priceability statements are made for the empty initial allocation only; containment is what survives.) -/

/-- the iterated modes need the allocation handed in as previous outcome to contain `init`, as `init ++ zeroCost` in
    the driver does -/
theorem variants_keep_init {V : VCtx} {I : Inst} {init : List Pid} (h : InputOK V I init)
    {order : List Pid → Except Err (List Pid)}
    (hord : ∀ T l, order T = .ok l → ∀ x ∈ l, x ∈ T) {b0 inc : Rat} (hb0 : 0 ≤ b0) (hinc : 0 ≤ inc) :
    (∀ W, runAt V I init order b0 = .ok W → ∀ p ∈ init, p ∈ W) ∧
    (∀ L, runAllAt V I init order b0 = .ok L → ∀ W ∈ L, ∀ p ∈ init, p ∈ W) ∧
    (∀ fuel prev W, (∀ p ∈ init, p ∈ prev) → iterated V I init order inc fuel b0 prev = .ok W →
      ∀ p ∈ init, p ∈ W) ∧
    (∀ fuel prev Ws, (∀ W ∈ prev, ∀ p ∈ init, p ∈ W) →
      iteratedAll V I init order inc fuel b0 prev = .ok Ws → ∀ W ∈ Ws, ∀ p ∈ init, p ∈ W) :=
  ⟨fun _ hW => (runAt_bounds h hord hb0 hW).2.1, fun _ hL W hW => (runAllAt_bounds h hord hb0 hL W hW).2.1,
    fun _ _ _ hp hW => (iterated_is_runAt _ _ _ _ hW).elim (fun e => e ▸ hp) fun ⟨k, hk, _⟩ =>
      (runAt_bounds h hord (hb0.trans (le_try hinc k)) hk).2.1,
    fun _ _ _ hp hW => (iteratedAll_is_runAllAt _ _ _ _ hW).elim (fun e => e ▸ hp) fun ⟨k, hk, _⟩ W hW =>
      (runAllAt_bounds h hord (hb0.trans (le_try hinc k)) hk W hW).2.1⟩

end MES
end Pabu
