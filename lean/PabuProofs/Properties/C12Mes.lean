/-
  C12 ← C07 — outcomes of the Method of Equal Shares are priceable, and the payments recorded by
  the run are a price system the validator accepts (model side).
  Proofs: PabuProofs/Lemmas/PriceMes.lean (per-condition lemmas on `MES.Recorded`).

  Setting: an approval election given as a list profile (`n` voters, voter `i` approves `p` iff
  `app i p`; the validator is defined per voter), no initial projects, plain Equal Shares with any
  additive utilities `u`.  Payment functions: `paid L i p` = the money voter `i` lost in the
  recorded round(s) that selected `p` (0 if `p` was never selected); voter budget `budget / n`
  (`mes_priceable`), or any `b0 ≥ 0` for the run at `b0` when its outcome is feasible (`mesAt_priceable`).

  Hypotheses the proof forces (and nothing else):
    * `0 < u i p ↔ app i p`  on the projects of the instance — utilities are positive exactly on
      the approved projects (needed for C1 one way, for C5 the other way);
    * costs ≥ 0 and budget ≥ 0 — POSITIVE costs are NOT needed: a supported zero-cost project is
      bought up front for free (C3 holds with all payments 0);
    * the tie-breaking function returns elements of the tied set and never returns the empty list
      on a non-empty tied set (every shipped rule: `Tie.order_mem`, `Tie.order_ne_nil`).
  With a cost-proportional utility (`Cost_Sat`) the first hypothesis says exactly "every approved
  project has positive cost" (`mes_priceable_cost_sat`); at the excluded point — an approved project
  of cost 0 — the statement is FALSE: `mes_priceable_zero_cost_counterexample`.
-/
import PabuProofs.Lemmas.PriceMes
import PabuProofs.Lemmas.Tie
import PabuProofs.Properties.C12
namespace Pabu.Price
open Pabu Pabu.MES Pabu.PriceMes

theorem accepted_of_exact {I : Inst} {n : Nat} {app : Nat → Pid → Bool} {L : List Iteration} {W : List Pid}
    {b0 : Rat} {stable exhaustive : Bool} (hE : Exact (inputOf I n app L W b0) stable exhaustive) :
    validate (inputOf I n app L W b0) stable exhaustive = true ∧
      Priceable I.projects I.cost I.budget W ((List.range n).map app) stable exhaustive :=
  ⟨validate_complete _ _ _ hE, b0, (inputOf I n app L W b0).N, List.map_map.trans rfl, hE⟩

/-- **the recorded run is a price system**: if the record `L` of the resolute run succeeds, then the
    voter budget `budget / n` with the recorded payments `paid L` satisfies every condition of
    `validate_price_system` exactly (plain variant, exhaustiveness not required) for the outcome
    `zero-cost projects ++ recorded selections`, and that outcome is what `MES.run` returns -/
theorem trace_is_price_system {I : Inst} {n : Nat} {u : Nat → Pid → Rat} {app : Nat → Pid → Bool}
    {order : List Pid → Except Err (List Pid)}
    (hord : ∀ T l, order T = .ok l → ∀ x ∈ l, x ∈ T) (hne : ∀ T, T ≠ [] → order T ≠ .ok [])
    (hproj : I.projects.Nodup) (hcost : ∀ p ∈ I.projects, 0 ≤ I.cost p) (hB : 0 ≤ I.budget)
    (hpos : ∀ i, i < n → ∀ p ∈ I.projects, (0 < u i p ↔ app i p = true))
    {L : List Iteration}
    (hL : trace (listV n u) I.cost order (initPool (listV n u) I []).length
      (initState (listV n u) I [] (I.budget / (n : Nat))) = .ok L) :
    MES.run (listV n u) I [] order = .ok (zeroCost (listV n u) I [] ++ selections L) ∧
      Exact (inputOf I n app L (zeroCost (listV n u) I [] ++ selections L) (I.budget / (n : Nat)))
        false false := by
  obtain ⟨s', hrec, hstop⟩ := trace_recorded hord _ _ L hL
  have halloc : s'.alloc = zeroCost (listV n u) I [] ++ selections L := by rw [hrec.alloc]; rfl
  have hrun : MES.run (listV n u) I [] order = .ok (zeroCost (listV n u) I [] ++ selections L) := by
    rw [run_listV, runAt, trace_run hord, hL]
    rfl
  have hfeas := of_decide_eq_true (runAt_share_feasible (listV_inputOK n u hproj hcost) hord hB hrun)
  exact ⟨hrun, halloc ▸ recorded_exact hproj hcost (div_nonneg hB (Nat.cast_nonneg n)) hpos
    (halloc ▸ hfeas) hrec (tied_nil_iff.mp (hstop (le_refl _) hne))⟩

/-- **priceable at any start budget** `b0 ≥ 0`, provided the outcome is feasible.  `Exact` / `validate_price_system`
    put no upper bound on the voter budget: the budget limit only enters C0a "cost W ≤ budget limit" (and C0b when
    exhaustiveness is asked), so `n · b0` may exceed it. -/
theorem mesAt_priceable {I : Inst} {n : Nat} {u : Nat → Pid → Rat} {app : Nat → Pid → Bool}
    {order : List Pid → Except Err (List Pid)}
    (hord : ∀ T l, order T = .ok l → ∀ x ∈ l, x ∈ T) (hne : ∀ T, T ≠ [] → order T ≠ .ok [])
    (hproj : I.projects.Nodup) (hcost : ∀ p ∈ I.projects, 0 ≤ I.cost p) {b0 : Rat} (hb0 : 0 ≤ b0)
    (hpos : ∀ i, i < n → ∀ p ∈ I.projects, (0 < u i p ↔ app i p = true))
    {W : List Pid} (hW : runAt (listV n u) I [] order b0 = .ok W) (hfeas : I.isFeasible W = true) :
    ∃ L, trace (listV n u) I.cost order (initPool (listV n u) I []).length
        (initState (listV n u) I [] b0) = .ok L ∧
      W = zeroCost (listV n u) I [] ++ selections L ∧
      Exact (inputOf I n app L W b0) false false ∧
      validate (inputOf I n app L W b0) false false = true ∧
      Priceable I.projects I.cost I.budget W ((List.range n).map app) false false := by
  obtain ⟨L, s', hL, hrec, hWs, hstop⟩ := runAt_recorded hord hW
  have hE : Exact (inputOf I n app L W b0) false false :=
    hWs ▸ recorded_exact hproj hcost hb0 hpos (hWs ▸ of_decide_eq_true hfeas) hrec (hstop hne)
  exact ⟨L, hL, by rw [hWs, hrec.alloc]; rfl, hE, accepted_of_exact hE⟩

/-- **mes_priceable**: every outcome of plain Equal Shares on an approval list profile is
    priceable — the recorded payments with voter budget `budget / n` are a price system, and
    `validate_price_system` accepts them -/
theorem mes_priceable {I : Inst} {n : Nat} {u : Nat → Pid → Rat} {app : Nat → Pid → Bool}
    {order : List Pid → Except Err (List Pid)}
    (hord : ∀ T l, order T = .ok l → ∀ x ∈ l, x ∈ T) (hne : ∀ T, T ≠ [] → order T ≠ .ok [])
    (hproj : I.projects.Nodup) (hcost : ∀ p ∈ I.projects, 0 ≤ I.cost p) (hB : 0 ≤ I.budget)
    (hpos : ∀ i, i < n → ∀ p ∈ I.projects, (0 < u i p ↔ app i p = true))
    {W : List Pid} (hW : MES.run (listV n u) I [] order = .ok W) :
    ∃ L, trace (listV n u) I.cost order (initPool (listV n u) I []).length
        (initState (listV n u) I [] (I.budget / (n : Nat))) = .ok L ∧
      W = zeroCost (listV n u) I [] ++ selections L ∧
      Exact (inputOf I n app L W (I.budget / (n : Nat))) false false ∧
      validate (inputOf I n app L W (I.budget / (n : Nat))) false false = true ∧
      Priceable I.projects I.cost I.budget W ((List.range n).map app) false false :=
  mesAt_priceable hord hne hproj hcost (div_nonneg hB (Nat.cast_nonneg n)) hpos (run_listV I n u [] order ▸ hW)
    (runAt_share_feasible (listV_inputOK n u hproj hcost) hord hB hW)

theorem indicator_pos_iff (a : Bool) : (0 : Rat) < (if a = true then 1 else 0) ↔ a = true := by
  cases a <;> simp

theorem range_map_getD {α : Type} (l : List α) (d : α) :
    (List.range l.length).map (fun i => l.getD i d) = l := by
  apply List.ext_getElem
  · simp
  · intro i h1 h2
    simp [List.getD, h2]

/-- `mes_priceable` for ballots given as a list of approval functions and a shipped tie-breaking rule.  (The statement
    cannot quantify over ALL order functions: the proof needs the order function to return members of the tied set
    and a non-empty list on a non-empty tied set — otherwise the run may stop early and the recorded payments with
    `b = budget / n` violate C5 — so the shipped rule is a parameter.) -/
theorem mes_priceable_tie (I : Inst) (apps : List (Pid → Bool)) (u : Nat → Pid → Rat)
    (t : Tie) (tcost : Pid → Rat) (score : Pid → Nat) (W : List Pid)
    (hB : 0 ≤ I.budget) (hproj : I.projects.Nodup) (hcost : ∀ p ∈ I.projects, 0 ≤ I.cost p)
    (hpos : ∀ i (h : i < apps.length) p, p ∈ I.projects → (0 < u i p ↔ apps[i] p = true))
    (hW : MES.run { vs := List.range apps.length, m := fun _ => 1, u := u } I []
      (Tie.order t tcost score) = .ok W) :
    Priceable I.projects I.cost I.budget W apps false false := by
  have hpos' : ∀ i, i < apps.length → ∀ p ∈ I.projects,
      (0 < u i p ↔ (fun i => apps.getD i (fun _ => false)) i p = true) := by
    intro i hi p hp
    have := hpos i hi p hp
    simp only [List.getD, List.getElem?_eq_getElem hi, Option.getD_some]
    exact this
  obtain ⟨L, _, _, _, _, hP⟩ := mes_priceable (n := apps.length) (u := u)
    (app := fun i => apps.getD i (fun _ => false))
    (Tie.order_mem t tcost score) (Tie.order_ne_nil t tcost score) hproj hcost hB hpos' hW
  rw [range_map_getD] at hP
  exact hP

/-- with the cost-proportional utility of `Cost_Sat` (`u i p = cost p` on approved projects, 0
    elsewhere) the positivity hypothesis is: every approved project has positive cost -/
theorem mes_priceable_cost_sat {I : Inst} {n : Nat} {app : Nat → Pid → Bool}
    {order : List Pid → Except Err (List Pid)}
    (hord : ∀ T l, order T = .ok l → ∀ x ∈ l, x ∈ T) (hne : ∀ T, T ≠ [] → order T ≠ .ok [])
    (hproj : I.projects.Nodup) (hcost : ∀ p ∈ I.projects, 0 ≤ I.cost p) (hB : 0 ≤ I.budget)
    (happ : ∀ i, i < n → ∀ p ∈ I.projects, app i p = true → 0 < I.cost p)
    {W : List Pid}
    (hW : MES.run (listV n (fun i p => if app i p = true then I.cost p else 0)) I [] order = .ok W) :
    Priceable I.projects I.cost I.budget W ((List.range n).map app) false false := by
  have hpos : ∀ i, i < n → ∀ p ∈ I.projects,
      (0 < (fun i p => if app i p = true then I.cost p else 0) i p ↔ app i p = true) := by
    intro i hi p hp
    by_cases ha : app i p = true
    · simp only [if_pos ha]; exact ⟨fun _ => ha, fun _ => happ i hi p hp ha⟩
    · simp only [if_neg ha]; exact ⟨fun h => absurd h (lt_irrefl 0), fun h => absurd h ha⟩
  obtain ⟨L, _, _, _, _, hP⟩ := mes_priceable hord hne hproj hcost hB hpos hW
  exact hP

/-! ### The excluded point: an approved project of cost 0 under a cost-proportional utility -/

/-- projects a = 0 (cost 2), z = 1 (cost 0); budget 4 -/
def cexI : Inst := ⟨[0, 1], fun p => if p = 0 then 2 else 0, 4⟩

/-- voter 0 approves {a}, voter 1 approves {z} -/
def cexApp : Nat → Pid → Bool := fun i p => decide (p = i)

/-- `Cost_Sat`: the utility of an approved project is its cost -/
def cexU : Nat → Pid → Rat := fun i p => if cexApp i p = true then cexI.cost p else 0

def cexL : List Iteration :=
  match trace (listV 2 cexU) cexI.cost (fun l => .ok l) (initPool (listV 2 cexU) cexI []).length
      (initState (listV 2 cexU) cexI [] (cexI.budget / (2 : Nat))) with
  | .ok L => L
  | .error _ => []

/-- **the negation at the excluded point**, kernel-checked: the election satisfies every hypothesis
    of `mes_priceable` except positivity at the approved zero-cost project `z` (`u 1 z = 0`); Equal
    Shares returns `[a]`; the recorded payments are rejected by the exact conditions and by the
    validator; and NO price system exists for `[a]` at all: `z`'s supporter pays nothing (C1, C4), so
    keeps their whole budget `b`, which must be ≤ cost z = 0 (C5), while `a`'s only supporter must
    pay 2 ≤ b (C3, C2) -/
theorem mes_priceable_zero_cost_counterexample :
    (cexI.projects.Nodup ∧ (∀ p ∈ cexI.projects, 0 ≤ cexI.cost p) ∧ 0 ≤ cexI.budget ∧
      cexApp 1 1 = true ∧ cexU 1 1 = 0) ∧
    MES.run (listV 2 cexU) cexI [] (fun l => .ok l) = .ok [0] ∧
    exact (inputOf cexI 2 cexApp cexL [0] (cexI.budget / (2 : Nat))) false false = false ∧
    validate (inputOf cexI 2 cexApp cexL [0] (cexI.budget / (2 : Nat))) false false = false ∧
    ¬ Priceable cexI.projects cexI.cost cexI.budget [0] ((List.range 2).map cexApp) false false := by
  refine ⟨⟨by decide, ?_, by decide +kernel, by decide, by decide +kernel⟩, by decide +kernel,
    by decide +kernel, by decide +kernel, ?_⟩
  · intro p hp
    have : p = 0 ∨ p = 1 := by simpa [cexI] using hp
    rcases this with rfl | rfl <;> decide +kernel
  · rintro ⟨b, N, hN, E⟩
    have hNW : ∀ X : Input, X.C = [0, 1] → X.W = [0] → 1 ∈ X.NW := by
      intro X h1 h2; unfold Input.NW; rw [h1, h2]; decide
    replace hN : N.map (fun v => v.app) = [cexApp 0, cexApp 1] := hN
    cases N with
    | nil => simp at hN
    | cons v0 N1 =>
      cases N1 with
      | nil => simp at hN
      | cons v1 N2 =>
        cases N2 with
        | cons _ _ => simp at hN
        | nil =>
          obtain ⟨a0, p0⟩ := v0
          obtain ⟨a1, p1⟩ := v1
          have h0 : a0 = cexApp 0 := by
            have := congrArg (fun l => l[0]?) hN
            simpa using this
          have h1 : a1 = cexApp 1 := by
            have := congrArg (fun l => l[1]?) hN
            simpa using this
          subst h0 h1
          -- C1: voter 0 pays nothing for z, voter 1 pays nothing for a
          have c1a : p0 1 = 0 := E.approved ⟨cexApp 0, p0⟩ (by simp) 1 (by simp [cexI]) rfl
          have c1b : p1 0 = 0 := E.approved ⟨cexApp 1, p1⟩ (by simp) 0 (by simp [cexI]) rfl
          -- C4: nothing is paid for z
          have c4 : p0 1 + (p1 1 + 0) = 0 := E.unselected 1 (hNW _ rfl rfl)
          -- C3: a is paid for
          have c3 : p0 0 + (p1 0 + 0) = 2 := E.selected 0 (by simp)
          -- C2: voter 0 stays within b
          have c2 : p0 0 + (p0 1 + 0) ≤ b := E.within ⟨cexApp 0, p0⟩ (by simp)
          -- C5: z's supporter holds at most cost z = 0
          have c5 : (b - (p1 0 + (p1 1 + 0))) + 0 ≤ 0 := E.noMoney rfl 1 (hNW _ rfl rfl)
          linarith

/-! ### The hypotheses are satisfiable on a non-trivial input -/

def exI' : Inst := ⟨[0, 1, 2, 3], fun p => if p = 3 then 0 else (p : Rat) + 1, 5⟩
def exApp' : Nat → Pid → Bool := fun i p => (i + p) % 2 == 0 || p == 3
def exU' : Nat → Pid → Rat := fun i p => if exApp' i p = true then 1 else 0

/-- three voters, four projects (one approved project of cost 0, bought up front; two projects are
    left out although their supporters still hold money), `Cardinality_Sat` utilities: every
    hypothesis of `mes_priceable` holds … -/
example : exI'.projects.Nodup ∧ (∀ p ∈ exI'.projects, 0 ≤ exI'.cost p) ∧ 0 ≤ exI'.budget ∧
    (∀ i, i < 3 → ∀ p ∈ exI'.projects, (0 < exU' i p ↔ exApp' i p = true)) ∧
    MES.run (listV 3 exU') exI' [] (Tie.order .lexico exI'.cost (fun _ => 0)) = .ok [3, 0] := by
  refine ⟨by decide, ?_, by decide +kernel, fun i _ p _ => indicator_pos_iff _, by decide +kernel⟩
  intro p hp
  have : p = 0 ∨ p = 1 ∨ p = 2 ∨ p = 3 := by simpa [exI'] using hp
  rcases this with rfl | rfl | rfl | rfl <;> decide +kernel

/-- … and the validator (rounded and exact) accepts the recorded payments, computed directly -/
example :
    (match trace (listV 3 exU') exI'.cost (Tie.order .lexico exI'.cost (fun _ => 0))
        (initPool (listV 3 exU') exI' []).length
        (initState (listV 3 exU') exI' [] (exI'.budget / (3 : Nat))) with
     | .ok L => validate (inputOf exI' 3 exApp' L [3, 0] (exI'.budget / (3 : Nat))) false false &&
         exact (inputOf exI' 3 exApp' L [3, 0] (exI'.budget / (3 : Nat))) false false
     | .error _ => false) = true := by decide +kernel

end Pabu.Price
