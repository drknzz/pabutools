/-
  Bridge C16 — what a frozen ballot is made of and what it hashes, re-read from the current source
  (Gen/C16.lean: `FrozenApprovalBallot.__new__` / `__hash__`, `FrozenCardinalBallot.__hash__`, `FrozenOrdinalBallot.__hash__`, the three
  `frozen()` methods — each ONE `return` of exactly the recorded form), tied to the model's canonical `freeze` (PabuModel/Multi.lean):
  the tuple of a frozen approval ballot is `sorted(approved)`, which for a set of approved projects IS `freezeApp`; the hashes are
  functions of the canonical content only (tuple hash of the sorted tuple; hash of the SET of items), so equal frozen ballots hash alike.
  The order `sorted` uses is `Project.__lt__`, regenerated and proved a strict total order in Bridge/C13 (this property's obligations
  include those theorems).
-/
import Gen.C16
import PabuProofs.Lemmas.Multi
import PabuProofs.Bridge.C13
namespace Pabu.Bridge.C16
open Multi

/-- `sorted(s)` of distinct projects is strictly ascending -/
theorem sortIds_sorted : ∀ {s : List Nat}, s.Nodup → (sortIds s).Pairwise (· < ·) := fun h =>
  ((Pabu.sortIds_sorted _).and (sortIds_nodup h)).imp fun h => Nat.lt_of_le_of_ne h.1 h.2

/-- `FrozenApprovalBallot.__new__` makes the tuple `sorted(approved)`.  For an approval ballot (a SET: distinct projects `s`, in whatever
    order the set hands them over) built by the insertions `l`, that tuple is the model's canonical frozen ballot -/
theorem approvalFrozenItems (l s : List Nat) (hs : s.Nodup) (hm : ∀ x, x ∈ s ↔ x ∈ l) :
    freezeApp l = Gen.C16.approvalFrozenItems (sortIds s) := by
  unfold Gen.C16.approvalFrozenItems
  apply eq_of_ascending (key := id) (sorted_freezeApp l) (sortIds_sorted hs)
  intro x
  rw [mem_freezeApp, mem_sortIds, hm]

/-- hence two set layouts of the same approval set freeze to the same tuple -/
theorem approvalFrozenItems_layout (s₁ s₂ : List Nat) (h₁ : s₁.Nodup) (h₂ : s₂.Nodup) (hm : ∀ x, x ∈ s₁ ↔ x ∈ s₂) :
    Gen.C16.approvalFrozenItems (sortIds s₁) = Gen.C16.approvalFrozenItems (sortIds s₂) := by
  rw [← approvalFrozenItems s₁ s₁ h₁ (fun _ => Iff.rfl), ← approvalFrozenItems s₁ s₂ h₂ (fun x => (hm x).symm)]

/-- `FrozenApprovalBallot.__hash__` / `FrozenOrdinalBallot.__hash__` are the tuple's own hash: whatever function `h` of the stored
    tuple that is, ballots with the same content hash alike -/
theorem approvalHash (h : List Nat → Nat) (l₁ l₂ : List Nat) (he : ∀ x, x ∈ l₁ ↔ x ∈ l₂) :
    Gen.C16.approvalHash (h (freezeApp l₁)) = Gen.C16.approvalHash (h (freezeApp l₂)) := by
  rw [freezeApp_ext he]

theorem ordinalHash (h : List Nat → Nat) (l₁ l₂ : List Nat) (he : firstOcc l₁ = firstOcc l₂) :
    Gen.C16.ordinalHash (h (firstOcc l₁)) = Gen.C16.ordinalHash (h (firstOcc l₂)) := by
  rw [he]

/-! `FrozenCardinalBallot.__hash__` hashes the SET of the items: a function of the items that does not see their order -/

/-- the items of a dict (distinct keys, insertion order) are a permutation of the canonical frozen ballot -/
theorem freezeCard_perm : ∀ l : List (Nat × Rat), (l.map Prod.fst).Nodup → (freezeCard l).Perm l :=
  Multi.freezeCard_perm

/-- `hash(frozenset(self.items()))`: for every hash `h` of the item SET (a function of the item list invariant under permutation)
    two cardinal ballots with the same content — built in whatever key order — hash alike -/
theorem cardinalHash (h : List (Nat × Rat) → Nat) (hperm : ∀ a b, a.Perm b → h a = h b)
    (i₁ i₂ : List (Nat × Rat)) (n₁ : (i₁.map Prod.fst).Nodup) (n₂ : (i₂.map Prod.fst).Nodup)
    (he : freezeCard i₁ = freezeCard i₂) :
    Gen.C16.cardinalHash (h i₁) = Gen.C16.cardinalHash (h i₂) := by
  unfold Gen.C16.cardinalHash
  exact hperm _ _ (((freezeCard_perm i₁ n₁).symm.trans (he ▸ List.Perm.refl _)).trans (freezeCard_perm i₂ n₂))

/-- a hash that looks at the key ORDER (the original defect D19: `hash(tuple(self.keys()))`) separates equal ballots: kernel-checked -/
example : freezeCard [(2, 1), (0, 5)] = freezeCard [(0, 5), (2, 1)] ∧
    ([(2, (1 : Rat)), (0, 5)].map Prod.fst ≠ [((0 : Nat), (5 : Rat)), (2, 1)].map Prod.fst) := by
  refine ⟨by decide, by decide⟩

/-- the three `frozen()` methods hand the ballot itself (with its name and meta) to the frozen class: nothing is computed in between -/
theorem frozen_shapes (a c o : Nat) :
    Gen.C16.approvalFrozen a = a ∧ Gen.C16.cardinalFrozen c = c ∧ Gen.C16.ordinalFrozen o = o := ⟨rfl, rfl, rfl⟩

example : Gen.C16.approvalFrozenItems (sortIds [3, 1, 2]) = [1, 2, 3] := by decide

end Pabu.Bridge.C16
