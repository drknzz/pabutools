/-
  Bridge C10 — the regenerated per-project satisfaction formulas (Gen/C10.lean, produced from the current
  source of pabutools/election/satisfaction/*.py on every run) are the formulas of the model (PabuModel/Sat.lean).
-/
import Gen.C10
import PabuModel.Sat
import Mathlib.Tactic.Ring
namespace Pabu.Bridge.C10

theorem cardinality (I : Inst) (P : Profile) (b : Ballot) (p : Pid) :
    satProject .cardinality I P b p = Gen.C10.cardinalitySat (memI b p) := rfl

theorem cost (I : Inst) (P : Profile) (b : Ballot) (p : Pid) :
    satProject .cost I P b p = Gen.C10.costSat (memI b p) (I.cost p) := rfl

theorem relCardinality (I : Inst) (P : Profile) (b : Ballot) (p : Pid) :
    satProject .relCardinality I P b p = Gen.C10.relCardinalitySat (memI b p) (normaliser .relCardinality I b) := by
  unfold satProject Gen.C10.relCardinalitySat
  simp only [decide_eq_true_eq]

theorem relCost (I : Inst) (P : Profile) (b : Ballot) (p : Pid) :
    satProject .relCost I P b p = Gen.C10.relCostSat (memI b p) (I.cost p) (normaliser .relCost I b) := by
  unfold satProject Gen.C10.relCostSat
  simp only [decide_eq_true_eq]

theorem relCostApprox (I : Inst) (P : Profile) (b : Ballot) (p : Pid) :
    satProject .relCostApprox I P b p = Gen.C10.relCostApproxSat (memI b p) (I.cost p) (normaliser .relCostApprox I b) := by
  unfold satProject Gen.C10.relCostApproxSat
  simp only [decide_eq_true_eq]

theorem relCostApproxNormaliser (I : Inst) (b : Ballot) :
    normaliser .relCostApprox I b = Gen.C10.relCostApproxNormaliser (costOf I.cost b.projects) I.budget := by
  unfold normaliser Gen.C10.relCostApproxNormaliser
  by_cases h : costOf I.cost b.projects ≤ I.budget
  · rw [if_pos h, min_eq_left h]
  · rw [if_neg h, min_eq_right (le_of_lt (not_le.mp h))]

theorem effort (I : Inst) (P : Profile) (b : Ballot) (p : Pid) :
    satProject .effort I P b p = Gen.C10.effortSat (memI b p) (I.cost p) ((effortDenominator P p : Nat) : Rat) := by
  unfold satProject Gen.C10.effortSat
  by_cases h : effortDenominator P p = 0
  · simp [h]
  · have : ((effortDenominator P p : Nat) : Rat) ≠ 0 := by exact_mod_cast h
    simp [h, this]

theorem addCardinal (I : Inst) (P : Profile) (b : Ballot) (p : Pid) :
    satProject .addCardinal I P b p = Gen.C10.addCardinalSat (b.score p) := rfl

theorem addCardinalRel (I : Inst) (P : Profile) (b : Ballot) (p : Pid) :
    satProject .addCardinalRel I P b p = Gen.C10.addCardinalRelSat (b.score p) (normaliser .addCardinalRel I b) := by
  unfold satProject Gen.C10.addCardinalRelSat
  simp only [decide_eq_true_eq]

theorem borda (l : List Pid) (p : Pid) (h : l.contains p = true) (hpos : indexOf l p < l.length) :
    bordaScore l p = Gen.C10.bordaSat true (l.length : Nat) (indexOf l p : Nat) := by
  unfold bordaScore Gen.C10.bordaSat
  simp only [h, if_true]
  have : (l.length - indexOf l p - 1 : Nat) = l.length - (indexOf l p + 1) := by omega
  rw [this, Nat.cast_sub (by omega)]
  push_cast
  ring

theorem borda_absent (l : List Pid) (p : Pid) (h : l.contains p = false) (x y : Rat) :
    bordaScore l p = Gen.C10.bordaSat false x y := by
  unfold bordaScore Gen.C10.bordaSat
  have hn : ¬ (l.contains p = true) := by rw [h]; simp
  rw [if_neg hn]
  simp

end Pabu.Bridge.C10
