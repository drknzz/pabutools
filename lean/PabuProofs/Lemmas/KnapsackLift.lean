/-
  Lemmas for C04: lifting the knapsack optimality (`Knap.solve`) to
  `MaxWelfare.primalDual` on instances (zero-cost projects, sorting by efficiency, index <-> project).
-/
import PabuProofs.Lemmas.Knapsack
import PabuProofs.Lemmas.MaxWelfare
import Mathlib.Data.List.GetD
namespace Pabu

namespace MaxWelfare
open Knap

theorem pw_mkItems (L : List Pid) (c p : Pid → Rat) (i : Nat) (hi : i < L.length) :
    pw ((L.map (fun q => (⟨c q, p q⟩ : Item))).toArray) i = c (L.getD i 0) := by
  unfold pw
  simp [Array.getD, hi]

theorem pp_mkItems (L : List Pid) (c p : Pid → Rat) (i : Nat) (hi : i < L.length) :
    pp ((L.map (fun q => (⟨c q, p q⟩ : Item))).toArray) i = p (L.getD i 0) := by
  unfold pp
  simp [Array.getD, hi]

variable (I : Inst) (profit : Pid → Rat) (init enum : List Pid)

def pdFree : List Pid := enum.filter (fun p => !init.contains p)
def pdZero : List Pid := (pdFree init enum).filter (fun p => decide (I.cost p = 0) && decide (0 < profit p))
def pdCands : List Pid := (pdFree init enum).filter (fun p => !decide (I.cost p = 0) && decide (0 ≤ profit p))
def pdSorted : List Pid :=
  sortLe (fun a b => decide (profit b / I.cost b ≤ profit a / I.cost a)) (pdCands I profit init enum)
def pdItems : Array Item :=
  ((pdSorted I profit init enum).map (fun p => (⟨I.cost p, profit p⟩ : Item))).toArray
def pdCap : Rat := I.budget - costOf I.cost (init ++ pdZero I profit init enum)

theorem primalDual_eq : primalDual I profit init enum =
    match (solve (pdItems I profit init enum) (pdCap I profit init enum)).2 with
    | none => init ++ pdZero I profit init enum
    | some idx => init ++ pdZero I profit init enum ++
        idx.map (fun i => (pdSorted I profit init enum).getD i 0) := rfl

theorem items_size : (pdItems I profit init enum).size = (pdSorted I profit init enum).length := by
  simp [pdItems]

theorem items_pw (i : Nat) (hi : i < (pdSorted I profit init enum).length) :
    pw (pdItems I profit init enum) i = I.cost ((pdSorted I profit init enum).getD i 0) :=
  pw_mkItems _ _ _ i hi

theorem items_pp (i : Nat) (hi : i < (pdSorted I profit init enum).length) :
    pp (pdItems I profit init enum) i = profit ((pdSorted I profit init enum).getD i 0) :=
  pp_mkItems _ _ _ i hi

theorem mem_pdFree (x : Pid) : x ∈ pdFree init enum ↔ x ∈ enum ∧ x ∉ init := by
  simp [pdFree]

theorem mem_pdZero (x : Pid) :
    x ∈ pdZero I profit init enum ↔ (x ∈ enum ∧ x ∉ init) ∧ I.cost x = 0 ∧ 0 < profit x := by
  simp [pdZero, mem_pdFree]

theorem mem_pdCands (x : Pid) :
    x ∈ pdCands I profit init enum ↔ (x ∈ enum ∧ x ∉ init) ∧ I.cost x ≠ 0 ∧ 0 ≤ profit x := by
  simp [pdCands, mem_pdFree]

theorem pdSorted_perm : (pdSorted I profit init enum).Perm (pdCands I profit init enum) := sortLe_perm _ _

theorem mem_pdSorted (x : Pid) :
    x ∈ pdSorted I profit init enum ↔ (x ∈ enum ∧ x ∉ init) ∧ I.cost x ≠ 0 ∧ 0 ≤ profit x := by
  rw [(pdSorted_perm I profit init enum).mem_iff, mem_pdCands]

/-- hypotheses of the lift: what `max_additive_utilitarian_welfare` may assume of its input
    (nothing is assumed of the profits: total satisfactions may be negative) -/
structure PDHyp (I : Inst) (profit : Pid → Rat) (init enum : List Pid) : Prop where
  cost_nn : ∀ p ∈ I.projects, 0 ≤ I.cost p
  init_feas : I.isFeasible init = true
  enum_perm : enum.Perm I.projects
  enum_nodup : enum.Nodup

variable {I profit init enum}

theorem PDHyp.sorted_nodup (H : PDHyp I profit init enum) : (pdSorted I profit init enum).Nodup := by
  rw [(pdSorted_perm I profit init enum).nodup_iff]
  exact (H.enum_nodup.filter _).filter _

theorem PDHyp.zero_nodup (H : PDHyp I profit init enum) : (pdZero I profit init enum).Nodup :=
  (H.enum_nodup.filter _).filter _

theorem PDHyp.items_sorted (H : PDHyp I profit init enum) : Sorted (pdItems I profit init enum) := by
  refine sorted_toArray (List.forall_mem_map.mpr fun p hp => ?_) (List.forall_mem_map.mpr fun p hp => ?_)
    (List.pairwise_map.mpr (sortLe_desc (fun p => profit p / I.cost p) (pdCands I profit init enum)))
  · have hm := (mem_pdSorted I profit init enum p).mp hp
    exact lt_of_le_of_ne (H.cost_nn p (H.enum_perm.subset hm.1.1)) (Ne.symm hm.2.1)
  · exact ((mem_pdSorted I profit init enum p).mp hp).2.2

theorem cost_pdZero : costOf I.cost (pdZero I profit init enum) = 0 :=
  sumOver_eq_zero fun x hx => ((mem_pdZero I profit init enum x).mp hx).2.1

theorem pdCap_eq : pdCap I profit init enum = I.budget - costOf I.cost init := by
  rw [pdCap, costOf_append, cost_pdZero, add_zero]

theorem PDHyp.cap_nonneg (H : PDHyp I profit init enum) : 0 ≤ pdCap I profit init enum := by
  rw [pdCap_eq]
  exact sub_nonneg.mpr ((I.isFeasible_iff init).mp H.init_feas)

variable (I profit init enum) in
/-- the projects selected by the knapsack solver -/
def pdTail : List Pid :=
  match (solve (pdItems I profit init enum) (pdCap I profit init enum)).2 with
  | none => []
  | some idx => idx.map (fun i => (pdSorted I profit init enum).getD i 0)

variable (I profit init enum) in
theorem primalDual_eq_tail : primalDual I profit init enum =
    init ++ pdZero I profit init enum ++ pdTail I profit init enum := by
  rw [primalDual_eq]; unfold pdTail
  cases (solve (pdItems I profit init enum) (pdCap I profit init enum)).2 <;> simp

theorem PDHyp.tail_facts (H : PDHyp I profit init enum) :
    (∀ x ∈ pdTail I profit init enum, x ∈ pdSorted I profit init enum) ∧
    (pdTail I profit init enum).Nodup ∧
    sumOver (pdTail I profit init enum) I.cost ≤ pdCap I profit init enum ∧
    sumOver (pdTail I profit init enum) profit =
      (solve (pdItems I profit init enum) (pdCap I profit init enum)).1 := by
  cases hS : (solve (pdItems I profit init enum) (pdCap I profit init enum)).2 with
  | none =>
    have ht : pdTail I profit init enum = [] := by unfold pdTail; rw [hS]
    rw [ht, solve_none _ _ hS]
    exact ⟨fun x hx => (by cases hx), List.nodup_nil, by simpa [sumOver] using H.cap_nonneg, rfl⟩
  | some S =>
    have ht : pdTail I profit init enum = S.map (fun i => (pdSorted I profit init enum).getD i 0) := by
      unfold pdTail; rw [hS]
    obtain ⟨hmem, hw, hp⟩ := solve_some _ _ S hS
    obtain ⟨hnd, hlt⟩ := sublist_range_facts hmem
    rw [items_size] at hlt
    rw [ht]
    refine ⟨?_, ?_, ?_, ?_⟩
    · intro x hx
      obtain ⟨i, hi, rfl⟩ := List.mem_map.mp hx
      rw [List.getD_eq_getElem _ _ (hlt i hi)]
      exact List.getElem_mem _
    · apply List.Nodup.map_on _ hnd
      intro i hi j hj hij
      rw [List.getD_eq_getElem _ _ (hlt i hi), List.getD_eq_getElem _ _ (hlt j hj)] at hij
      exact (H.sorted_nodup.getElem_inj_iff).mp hij
    · rw [sumOver_map, sumOver_congr fun i hi => (items_pw I profit init enum i (hlt i hi)).symm]
      exact hw
    · rw [sumOver_map, sumOver_congr fun i hi => (items_pp I profit init enum i (hlt i hi)).symm]
      exact hp

/-- C01 for this rule: the returned allocation respects the budget limit -/
theorem PDHyp.feasible (H : PDHyp I profit init enum) :
    I.isFeasible (primalDual I profit init enum) = true := by
  rw [primalDual_eq_tail]
  exact (I.isFeasible_append _ _).mpr (le_sub_iff_add_le'.mp H.tail_facts.2.2.1)

variable (I profit init enum) in
theorem init_prefix : init <+: primalDual I profit init enum := by
  rw [primalDual_eq_tail, List.append_assoc]; exact List.prefix_append _ _

theorem PDHyp.nodup (H : PDHyp I profit init enum) (hinit : init.Nodup) :
    (primalDual I profit init enum).Nodup := by
  rw [primalDual_eq_tail]
  obtain ⟨htm, htn, _, _⟩ := H.tail_facts
  refine List.nodup_append.mpr ⟨List.nodup_append.mpr ⟨hinit, H.zero_nodup, ?_⟩, htn, ?_⟩
  · intro a ha b hb hab
    subst hab
    exact ((mem_pdZero I profit init enum a).mp hb).1.2 ha
  · intro a ha b hb hab
    subst hab
    have hb' := (mem_pdSorted I profit init enum a).mp (htm a hb)
    rcases List.mem_append.mp ha with ha | ha
    · exact hb'.1.2 ha
    · exact hb'.2.1 ((mem_pdZero I profit init enum a).mp ha).2.1

theorem PDHyp.projects_nodup (H : PDHyp I profit init enum) : I.projects.Nodup :=
  H.enum_perm.nodup_iff.mp H.enum_nodup

theorem PDHyp.cand_facts (H : PDHyp I profit init enum) {s : List Pid}
    (hs : s ∈ sublists (I.projects.filter (fun p => !init.contains p))) :
    s.Nodup ∧ ∀ x ∈ s, x ∈ I.projects ∧ x ∉ init := by
  have hsub := (mem_sublists _ _).mp hs
  refine ⟨hsub.nodup (H.projects_nodup.filter _), ?_⟩
  intro x hx
  have := hsub.subset hx
  simpa using this

/-- the indicator (over positions of the sorted candidate list) of a set of projects -/
def indOfProjects (L s : List Pid) : Nat → Bool := fun i => decide (L.getD i 0 ∈ s)

/-- sums over positions selected by `indOfProjects` are sums over the positive-cost part of `s`
    (for a set `s` of projects of non-negative profit: exactly those are knapsack items) -/
theorem PDHyp.ind_sum (H : PDHyp I profit init enum) {s : List Pid} (hnd : s.Nodup)
    (hmem : ∀ x ∈ s, x ∈ I.projects ∧ x ∉ init) (hnn : ∀ x ∈ s, 0 ≤ profit x) (h : Pid → Rat) (f : Nat → Rat)
    (hf : ∀ i, i < (pdSorted I profit init enum).length → f i = h ((pdSorted I profit init enum).getD i 0)) :
    sumOver (List.range (pdItems I profit init enum).size)
        (fun i => if indOfProjects (pdSorted I profit init enum) s i then f i else 0)
      = sumOver (s.filter (fun p => !decide (I.cost p = 0))) h := by
  rw [items_size, ← sumOver_filter_ite,
    sumOver_congr fun i hi => hf i (List.mem_range.mp (List.mem_filter.mp hi).1),
    sumOver_filter_ite]
  refine (sumOver_range_getD _ fun x => if decide (x ∈ s) then h x else 0).trans ?_
  rw [← sumOver_filter_ite]
  refine sumOver_perm ((List.perm_ext_iff_of_nodup (H.sorted_nodup.filter _) (hnd.filter _)).mpr fun x => ?_) h
  rw [List.mem_filter, List.mem_filter, mem_pdSorted]
  constructor
  · rintro ⟨⟨_, hc, _⟩, hx⟩
    exact ⟨by simpa using hx, by simpa using hc⟩
  · rintro ⟨hx, hc⟩
    have := hmem x hx
    exact ⟨⟨⟨H.enum_perm.mem_iff.mpr this.1, this.2⟩, by simpa using hc, hnn x hx⟩, by simpa using hx⟩

theorem PDHyp.upper_nn (H : PDHyp I profit init enum) {s : List Pid}
    (hs : s ∈ sublists (I.projects.filter (fun p => !init.contains p)))
    (hnn : ∀ x ∈ s, 0 ≤ profit x)
    (hf : I.isFeasible (init ++ s) = true) :
    sumOver s profit ≤ sumOver (pdZero I profit init enum) profit +
      (solve (pdItems I profit init enum) (pdCap I profit init enum)).1 := by
  obtain ⟨hnd, hmem⟩ := H.cand_facts hs
  rw [sumOver_filter_add s (fun p => decide (I.cost p = 0)) profit]
  refine add_le_add ?_ ?_
  · -- zero-cost part: its projects of positive profit are among those taken, the others add nothing
    rw [sumOver_filter_add (s.filter (fun p => decide (I.cost p = 0))) (fun p => decide (0 < profit p)) profit,
      sumOver_eq_zero (l := List.filter (fun p => !decide (0 < profit p)) _), add_zero]
    · refine sumOver_le_of_subset ((hnd.filter _).filter _) (fun x hx => ?_)
        fun x hx => le_of_lt ((mem_pdZero I profit init enum x).mp hx).2.2
      obtain ⟨hx1, hx2⟩ := List.mem_filter.mp hx
      obtain ⟨hxs, hx3⟩ := List.mem_filter.mp hx1
      exact (mem_pdZero I profit init enum x).mpr
        ⟨⟨H.enum_perm.mem_iff.mpr (hmem x hxs).1, (hmem x hxs).2⟩, by simpa using hx3, by simpa using hx2⟩
    · intro x hx
      obtain ⟨hx1, hx2⟩ := List.mem_filter.mp hx
      exact le_antisymm (by simpa using hx2) (hnn x (List.mem_filter.mp hx1).1)
  · -- positive-cost part: a feasible indicator for the knapsack
    rw [← (profitY_eq _ _).trans (H.ind_sum hnd hmem hnn profit _ (items_pp I profit init enum))]
    refine solve_ge _ H.items_sorted _ _ ?_
    rw [(weightY_eq _ _).trans (H.ind_sum hnd hmem hnn I.cost _ (items_pw I profit init enum)), pdCap_eq,
      le_sub_iff_add_le']
    refine le_trans (add_le_add (le_refl _) ?_) ((I.isFeasible_append init s).mp hf)
    exact sumOver_sublist_le List.filter_sublist fun x hx => H.cost_nn x (hmem x hx).1

/-! ### projects of negative profit are never needed; the returned allocation is optimal -/

theorem sumOver_le_dropNeg (profit : Pid → Rat) (s : List Pid) :
    sumOver s profit ≤ sumOver (s.filter (fun p => decide (0 ≤ profit p))) profit := by
  rw [sumOver_filter_ite]
  refine sumOver_mono fun x _ => ?_
  by_cases h : 0 ≤ profit x
  · rw [if_pos (decide_eq_true h)]
  · rw [if_neg (by simpa using h)]; exact (not_le.mp h).le

/-- why negative profits do no harm: dropping them from a feasible extension keeps it a feasible candidate
    (costs are non-negative) and does not lower the welfare -/
theorem PDHyp.dropNeg (H : PDHyp I profit init enum) {s : List Pid}
    (hs : s ∈ sublists (I.projects.filter (fun p => !init.contains p)))
    (hf : I.isFeasible (init ++ s) = true) :
    s.filter (fun p => decide (0 ≤ profit p)) ∈ sublists (I.projects.filter (fun p => !init.contains p)) ∧
    (∀ x ∈ s.filter (fun p => decide (0 ≤ profit p)), 0 ≤ profit x) ∧
    I.isFeasible (init ++ s.filter (fun p => decide (0 ≤ profit p))) = true ∧
    sumOver s profit ≤ sumOver (s.filter (fun p => decide (0 ≤ profit p))) profit := by
  obtain ⟨_, hmem⟩ := H.cand_facts hs
  refine ⟨(mem_sublists _ _).mpr (List.filter_sublist.trans ((mem_sublists _ _).mp hs)),
    fun x hx => by simpa using (List.mem_filter.mp hx).2, ?_, sumOver_le_dropNeg profit s⟩
  rw [I.isFeasible_append] at hf ⊢
  exact le_trans (add_le_add (le_refl _)
    (sumOver_sublist_le List.filter_sublist fun x hx => H.cost_nn x (hmem x hx).1)) hf

theorem PDHyp.upper (H : PDHyp I profit init enum) {s : List Pid}
    (hs : s ∈ sublists (I.projects.filter (fun p => !init.contains p)))
    (hf : I.isFeasible (init ++ s) = true) :
    sumOver s profit ≤ sumOver (pdZero I profit init enum) profit +
      (solve (pdItems I profit init enum) (pdCap I profit init enum)).1 := by
  obtain ⟨hs', hnn, hf', hle⟩ := H.dropNeg hs hf
  exact le_trans hle (H.upper_nn hs' hnn hf')

theorem PDHyp.value (H : PDHyp I profit init enum) :
    sumOver (primalDual I profit init enum) profit = sumOver init profit +
      (sumOver (pdZero I profit init enum) profit +
        (solve (pdItems I profit init enum) (pdCap I profit init enum)).1) := by
  rw [primalDual_eq_tail, sumOver_append, sumOver_append, H.tail_facts.2.2.2, add_assoc]

/-- what is added to `init`, as a sub-list of the instance's projects outside `init` -/
def pdAdded (I : Inst) (profit : Pid → Rat) (init enum : List Pid) : List Pid :=
  (I.projects.filter (fun p => !init.contains p)).filter
    (fun x => decide (x ∈ pdZero I profit init enum ++ pdTail I profit init enum))

theorem PDHyp.added_perm (H : PDHyp I profit init enum) :
    (init ++ pdAdded I profit init enum).Perm (primalDual I profit init enum) := by
  rw [primalDual_eq_tail, List.append_assoc]
  apply List.Perm.append_left
  obtain ⟨htm, htn, _, _⟩ := H.tail_facts
  have hzt : (pdZero I profit init enum ++ pdTail I profit init enum).Nodup := by
    refine List.nodup_append.mpr ⟨H.zero_nodup, htn, ?_⟩
    rintro a ha _ hb rfl
    exact ((mem_pdSorted I profit init enum a).mp (htm a hb)).2.1 ((mem_pdZero I profit init enum a).mp ha).2.1
  unfold pdAdded
  rw [List.perm_ext_iff_of_nodup ((H.projects_nodup.filter _).filter _) hzt]
  intro x
  rw [List.mem_filter, List.mem_filter]
  constructor
  · rintro ⟨_, hx⟩; simpa using hx
  · intro hx
    have hfree : x ∈ enum ∧ x ∉ init := by
      rcases List.mem_append.mp hx with hx | hx
      · exact ((mem_pdZero I profit init enum x).mp hx).1
      · exact ((mem_pdSorted I profit init enum x).mp (htm x hx)).1
    exact ⟨⟨H.enum_perm.mem_iff.mp hfree.1, by simpa using hfree.2⟩, by simpa using hx⟩

theorem PDHyp.added_feasible (H : PDHyp I profit init enum) :
    I.isFeasible (init ++ pdAdded I profit init enum) = true :=
  (I.isFeasible_perm H.added_perm).trans H.feasible

/-- optimality: the welfare of the returned allocation is the brute-force optimum -/
theorem PDHyp.optimal (H : PDHyp I profit init enum) :
    sumOver (primalDual I profit init enum) profit = optValue I profit init := by
  rw [optValue_eq_of_best I profit init (pdAdded I profit init enum) List.filter_sublist H.added_feasible,
    sumOver_perm H.added_perm]
  intro t ht hf
  have h1 := H.upper ((mem_sublists _ _).mpr ht) hf
  have h2 := (sumOver_perm H.added_perm profit).trans H.value
  rw [sumOver_append] at h2
  linarith

end MaxWelfare
end Pabu
