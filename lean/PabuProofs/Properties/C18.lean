/-
  C18 — election and outcome statistics equal their textbook definitions (model side).
  Entries are (value, multiplicity); `expand` lists every voter once.
-/
import PabuProofs.Lemmas.Stats
namespace Pabu.Stats

/-- `mean_generator` over (value, multiplicity) entries: the streaming update
    `n += 1; mean += (x − mean)/n` yields Σ m·x / Σ m, and 0 when Σ m = 0. -/
theorem meanGen_eq (xs : Entries) :
    meanGen xs = if totalMult xs = 0 then 0 else weightedSum xs / ((totalMult xs : Nat) : Rat) := by
  unfold meanGen
  by_cases h : totalMult xs = 0
  · rw [if_pos h, meanLoop_zero xs 0 0 h]
  · rw [if_neg h]
    have h1 := meanLoop_snd xs 0 0
    rw [Nat.cast_zero, zero_add, mul_zero, zero_add] at h1
    rw [eq_div_iff (Nat.cast_ne_zero.2 h), h1]

/-- the same with each voter counted once: the arithmetic mean of the expanded list -/
theorem meanGen_eq_expand (xs : Entries) :
    meanGen xs = if (expand xs).length = 0 then 0
      else sumOver (expand xs) id / (((expand xs).length : Nat) : Rat) := by
  rw [meanGen_eq, totalMult_eq_length, weightedSum_eq_sum]

example : meanGen [(1, 2), (5/2, 0), (3, 1)] = 5 / 3 := by decide +kernel

/-- the cumulative formula of `gini_coefficient`, evaluated on an ascending list with positive sum,
    is Σᵢ Σⱼ |xᵢ − xⱼ| / (2·n·Σx) -/
theorem giniFormula_sorted_eq_pairwise (xs : List Rat) (hs : xs.Pairwise (· ≤ ·)) (hpos : 0 < sumOver xs id) :
    (((xs.length : Nat) : Rat) + 1 - 2 * cumFrom xs.length 0 xs / sumOver xs id) / ((xs.length : Nat) : Rat)
      = pairAbs xs / (2 * ((xs.length : Nat) : Rat) * sumOver xs id) := by
  have hc := cumFrom_eq 0 xs
  rw [Nat.zero_add] at hc
  rw [hc, pairAbs_sorted xs hs]
  exact gini_arith _ _ _ hpos.ne'

/-- `gini_coefficient` (which sorts its argument) equals the pairwise definition on every vector of
    non-negative rationals with positive sum, in any order -/
theorem giniCum_eq_pairwise (xs : List Rat) (hnn : ∀ x ∈ xs, 0 ≤ x) (hpos : 0 < sumOver xs id) :
    giniCum xs = pairAbs xs / (2 * ((xs.length : Nat) : Rat) * sumOver xs id) := by
  have hp := sortRat_perm xs
  -- length, sum and the pairwise double sum do not see the sorting; on the sorted list the formula is the sorted case
  rw [giniCum, allNul_false_of_pos xs hnn hpos, if_neg Bool.false_ne_true, ← pairAbs_perm hp, ← sumOver_perm hp id,
    ← hp.length_eq]
  exact giniFormula_sorted_eq_pairwise _ (sortRat_sorted xs) (by rw [sumOver_perm hp]; exact hpos)

/-- and it is 0 on an all-zero vector (where the pairwise quotient would be 0/0) -/
theorem giniCum_zero (xs : List Rat) (h : ∀ x ∈ xs, x = 0) : giniCum xs = 0 := by
  unfold giniCum; rw [allNul_of_zero xs h]; simp

/-- `gini_coefficient_of_satisfaction`: the pairwise Gini coefficient over the voters, each counted once -/
theorem giniSat_eq (xs : Entries) (hnn : ∀ x ∈ expand xs, 0 ≤ x) (hpos : 0 < sumOver (expand xs) id) :
    giniSat xs = .ok (giniPairwise (expand xs)) := by
  unfold giniSat gini
  have : (expand xs).any (fun v => decide (v < 0)) = false := by
    rw [List.any_eq_false]
    intro x hx
    have := hnn x hx
    simp only [decide_eq_true_eq, not_lt]; exact this
  rw [this]
  simp only [Bool.false_eq_true, if_false]
  rw [giniCum_eq_pairwise _ hnn hpos]; rfl

example : giniCum [3, 1, 0, 4] = 7 / 16 ∧ (∀ x ∈ ([3, 1, 0, 4] : List Rat), 0 ≤ x) ∧
    0 < sumOver ([3, 1, 0, 4] : List Rat) id := by decide +kernel

/-- `satisfaction_histogram`: with at least one bin and non-negative satisfactions
    * every voter falls in exactly one bin `< bins` (`binOf` is a function with values `< bins`),
    * the bin counts add up to the number of voters and the shares to 1,
    * a satisfaction `≥ max_satisfaction` goes to the last bin,
    * a satisfaction `< max_satisfaction` goes to the bin `k` with `k−1 < sat·(bins−1)/max ≤ k`. -/
theorem hist_partition (bins : Nat) (mx : Rat) (xs : Entries) (hb : 0 < bins) (hs : ∀ e ∈ xs, 0 ≤ e.1) :
    (∀ e ∈ xs, binOf bins mx e.1 < bins) ∧
    sumNat (List.range bins) (histCount bins mx xs) = totalMult xs ∧
    (0 < totalMult xs → sumOver (hist bins mx xs) id = 1) ∧
    (∀ s, mx ≤ s → binOf bins mx s = bins - 1) ∧
    (∀ s k, 0 ≤ s → s < mx →
      (binOf bins mx s = k ↔
        ((k : Rat) - 1 < s * ((bins - 1 : Nat) : Rat) / mx ∧ s * ((bins - 1 : Nat) : Rat) / mx ≤ (k : Rat)))) :=
  ⟨fun e he => binOf_lt bins mx e.1 hb (hs e he), histCount_sum bins mx xs hb hs,
   fun ht => hist_sum bins mx xs hb hs ht, fun s h => binOf_last bins mx s h,
   fun s k h0 h1 => binOf_char bins mx s k h0 h1⟩

theorem histCount_eq_count (bins : Nat) (mx : Rat) (xs : Entries) (k : Nat) :
    histCount bins mx xs k = (expand xs).countP (fun s => decide (binOf bins mx s = k)) := by
  rw [countP_expand]; unfold histCount; simp only [decide_eq_true_eq]

theorem binOf_of_bounds (bins : Nat) (mx s : Rat) (k : Nat) (hs : 0 ≤ s) (hlt : s < mx)
    (h1 : (k : Rat) - 1 < s * ((bins - 1 : Nat) : Rat) / mx) (h2 : s * ((bins - 1 : Nat) : Rat) / mx ≤ (k : Rat)) :
    binOf bins mx s = k := (binOf_char bins mx s k hs hlt).mpr ⟨h1, h2⟩

/-- non-vacuity: 4 bins, normaliser 2; satisfaction 1 lies strictly inside bin 2 (1·3/2 = 3/2),
    0 lies on the boundary of bin 0, 2 reaches the normaliser -/
example : hist 4 2 [(1, 2), (0, 1), (2, 1), (1, 1)] = [1/5, 0, 3/5, 1/5] ∧
    (∀ e ∈ ([(1, 2), (0, 1), (2, 1), (1, 1)] : Entries), 0 ≤ e.1) ∧
    0 < totalMult [(1, 2), (0, 1), (2, 1), (1, 1)] := by
  decide +kernel

/-- `percent_positive_satisfaction` (repaired): share of the voters, each counted once, whose
    satisfaction is positive -/
theorem percentPositive_eq (xs : Entries) :
    percentPositive xs =
      (((expand xs).countP (fun s => decide (0 < s)) : Nat) : Rat) / (((expand xs).length : Nat) : Rat) := by
  unfold percentPositive posCount
  rw [countP_expand, totalMult_eq_length]
  simp only [decide_eq_true_eq]

example : percentPositive [(1, 2), (0, 3)] = 2 / 5 := by decide +kernel

/-- approval score of a project = number of voters (each once) whose ballot contains it -/
theorem approvalScore_eq_count (P : Profile) (p : Pid) :
    P.approvalScore p = (expand P).countP (fun b => b.mem p) := by
  rw [countP_expand]; rfl

/-- `votes_count_by_project` as intended (the library counts entries: `votesCountEntries`, D7) = number of voters
    (each once) whose ballot lists the project -/
theorem votesCount_eq_count (P : Profile) (p : Pid) :
    votesCount P p = (expand P).countP (fun b => b.mem p) := by
  rw [countP_expand]; rfl

/-- total score of a project = Σ over voters (each once) whose ballot contains it of their score -/
theorem totalScore_eq_sum (P : Profile) (p : Pid) :
    totalScore P p = sumOver (expand P) (fun b => if b.mem p then b.score p else 0) := by
  rw [sumOver_expand]
  unfold totalScore
  apply sumOver_congr
  intro e _
  by_cases h : e.1.mem p = true
  · rw [if_pos h, if_pos h]; ring
  · rw [if_neg h, if_neg h]; ring

/-- `voter_flow_matrix` as intended (the library counts entries: `voterFlowEntries`, D7), off the diagonal = number
    of voters (each once) listing both projects -/
theorem voterFlow_eq_count (P : Profile) (a b : Pid) (h : a ≠ b) :
    voterFlow P a b = (expand P).countP (fun v => decide (v.mem a = true ∧ v.mem b = true)) := by
  unfold voterFlow
  rw [if_neg h, countP_expand]
  simp only [decide_eq_true_eq]

/-- `avg_ballot_length` is the arithmetic mean over the voters, each counted once -/
theorem avgBallotLength_eq (P : Profile) :
    avgBallotLength P = if (expand (lenEntries P)).length = 0 then 0
      else sumOver (expand (lenEntries P)) id / (((expand (lenEntries P)).length : Nat) : Rat) :=
  meanGen_eq_expand _

/-- `avg_satisfaction` is Σ multiplicity · satisfaction / Σ multiplicity -/
theorem avgSat_eq (μ : Measure) (I : Inst) (P : Profile) (W : List Pid) :
    avgSat (satEntries μ I P W) = if totalMult (satEntries μ I P W) = 0 then 0
      else weightedSum (satEntries μ I P W) / ((totalMult (satEntries μ I P W) : Nat) : Rat) :=
  meanGen_eq _

/-- profiles and multiprofiles are interchangeable for these statistics: they depend only on the
    multiset of voters (`expand`), not on how voters are grouped into entries -/
theorem meanGen_of_perm (xs ys : Entries) (h : (expand xs).Perm (expand ys)) : meanGen xs = meanGen ys := by
  rw [meanGen_eq_expand, meanGen_eq_expand, sumOver_perm h, h.length_eq]

theorem percentPositive_of_perm (xs ys : Entries) (h : (expand xs).Perm (expand ys)) :
    percentPositive xs = percentPositive ys := by
  rw [percentPositive_eq, percentPositive_eq, h.countP_eq, h.length_eq]

theorem hist_of_perm (bins : Nat) (mx : Rat) (xs ys : Entries) (h : (expand xs).Perm (expand ys)) :
    hist bins mx xs = hist bins mx ys := by
  unfold hist
  rw [totalMult_eq_length, totalMult_eq_length, h.length_eq]
  apply List.map_congr_left
  intro k _
  rw [histCount_eq_count, histCount_eq_count, h.countP_eq]

example : (expand ([(1, 2), (0, 1)] : Entries)).Perm (expand ([(1, 1), (0, 1), (1, 1)] : Entries)) := by
  decide +kernel

/-- on a list profile (all multiplicities 1) the implementation's per-entry count IS the per-voter count -/
theorem votesCountEntries_eq_of_list (P : Profile) (h : ∀ e ∈ P, e.2 = 1) (p : Pid) :
    votesCountEntries P p = votesCount P p :=
  sumNat_congr fun e he => by rw [h e he]

theorem voterFlowEntries_eq_of_list (P : Profile) (h : ∀ e ∈ P, e.2 = 1) (a b : Pid) :
    voterFlowEntries P a b = voterFlow P a b := by
  unfold voterFlowEntries voterFlow
  by_cases hab : a = b
  · rw [if_pos hab, if_pos hab]; exact sumNat_congr fun e he => by rw [h e he]
  · rw [if_neg hab, if_neg hab]; exact sumNat_congr fun e he => by rw [h e he]

/-- the known finding, kernel-checked: on a multiprofile the per-entry count differs from the number of voters -/
example : votesCountEntries [(.app [0], 3)] 0 = 1 ∧ votesCount [(.app [0], 3)] 0 = 3 := by decide

end Pabu.Stats
