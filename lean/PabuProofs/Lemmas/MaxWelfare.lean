/-
  Lemmas about the brute-force specifications of `PabuModel.MaxWelfare`: the optimum `optValue` and the list
  `allOptima` of the allocations that attain it.
-/
import PabuModel.MaxWelfare
import PabuProofs.Lemmas.Election
namespace Pabu
namespace MaxWelfare

theorem mem_candidates {I : Inst} {init a : List Pid} :
    a ∈ ((sublists (I.projects.filter (fun p => !init.contains p))).map (fun s => init ++ s)).filter I.isFeasible ↔
      ∃ s : List Pid, s.Sublist (I.projects.filter (fun p => !init.contains p)) ∧
        I.isFeasible (init ++ s) = true ∧ init ++ s = a := by
  simp only [List.mem_filter, List.mem_map, mem_sublists]
  constructor
  · rintro ⟨⟨s, hs, rfl⟩, hf⟩
    exact ⟨s, hs, hf, rfl⟩
  · rintro ⟨s, hs, hf, rfl⟩
    exact ⟨⟨s, hs, rfl⟩, hf⟩

theorem optValue_eq_of_best (I : Inst) (profit : Pid → Rat) (init s₀ : List Pid)
    (hs₀ : s₀.Sublist (I.projects.filter (fun p => !init.contains p))) (hf : I.isFeasible (init ++ s₀) = true)
    (hbest : ∀ t : List Pid, t.Sublist (I.projects.filter (fun p => !init.contains p)) →
      I.isFeasible (init ++ t) = true → sumOver t profit ≤ sumOver s₀ profit) :
    optValue I profit init = sumOver (init ++ s₀) profit := by
  unfold optValue
  rw [maxRat_eq_some (List.mem_map_of_mem (mem_candidates.mpr ⟨s₀, hs₀, hf, rfl⟩))]
  intro x hx
  obtain ⟨a, ha, rfl⟩ := List.mem_map.mp hx
  obtain ⟨t, ht, hft, rfl⟩ := mem_candidates.mp ha
  rw [sumOver_append, sumOver_append]
  exact add_le_add (le_refl _) (hbest t ht hft)

theorem mem_allOptima {I : Inst} {profit : Pid → Rat} {init a : List Pid} :
    a ∈ allOptima I profit init ↔
      ∃ s : List Pid, s.Sublist (I.projects.filter (fun p => !init.contains p)) ∧
        I.isFeasible (init ++ s) = true ∧ init ++ s = a ∧ sumOver a profit = optValue I profit init := by
  unfold allOptima
  rw [List.mem_filter, mem_candidates, decide_eq_true_iff]
  constructor
  · rintro ⟨⟨s, hs, hf, rfl⟩, hv⟩
    exact ⟨s, hs, hf, rfl, hv⟩
  · rintro ⟨s, hs, hf, rfl, hv⟩
    exact ⟨⟨s, hs, hf, rfl⟩, hv⟩

end MaxWelfare
end Pabu
