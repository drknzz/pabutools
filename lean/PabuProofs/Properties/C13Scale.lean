/-
  C13, the scaling clause — "the set of projects selected does not change when all costs and the
  budget are multiplied by the same positive factor" (model side).  Proofs: PabuProofs/Lemmas/Scale.lean.

  `scaleI k I` is the instance with every cost and the budget multiplied by `k`; `scaleV μ V` the
  Equal-Shares voters with every utility multiplied by `μ`.  The shipped satisfaction measures are
  homogeneous in (costs, budget): degree 1 for `Cost_Sat`, `Effort_Sat` (`factor = k`), degree 0 for
  all the others (`factor = 1`) — `sat_scale`.  No hypothesis besides `0 < k` (and `0 < μ`) is
  needed anywhere: the statements hold for all inputs of the model, whatever the signs of costs,
  budgets and utilities, and for every tie-breaking function, errors included.
-/
import PabuProofs.Lemmas.Scale
import PabuModel.Expand
namespace Pabu.C13
open Scale

/-- every shipped tie-breaking rule returns the same order (or the same refusal) when all costs
    are multiplied by `k > 0` -/
theorem tie_order_scale (t : Tie) (cost : Pid → Rat) (score : Pid → Nat) {k : Rat} (hk : 0 < k) :
    Tie.order t (fun p => k * cost p) score = Tie.order t cost score :=
  Scale.tie_order_scale t cost score hk

/-! ### Equal Shares -/

/-- the price of a project scales by `k / μ` when money and costs are multiplied by `k` and
    utilities by `μ` (so the projects tied for the least price are the same) -/
theorem mes_rho_scale {k μ : Rat} (hk : 0 < k) (hμ : 0 < μ) (V : VCtx) (cost : Pid → Rat)
    (b : Nat → Rat) (p : Pid) :
    MES.rho (scaleV μ V) (fun q => k * cost q) (fun i => k * b i) p =
      (MES.rho V cost b p).map (fun r => r * (k / μ)) :=
  MES.rho_scale hk hμ V cost b p

theorem mes_round_scale {k μ : Rat} (hk : 0 < k) (hμ : 0 < μ) (V : VCtx) (cost : Pid → Rat)
    (s : MES.State) (t : Pid) :
    MES.tied (scaleV μ V) (fun q => k * cost q) (Scale.scaleS k s) = MES.tied V cost s ∧
      (∀ r i, MES.pay (scaleV μ V) (fun j => k * s.b j) t (r * (k / μ)) i = k * MES.pay V s.b t r i) ∧
      MES.buy (scaleV μ V) (fun q => k * cost q) (Scale.scaleS k s) t =
        Scale.scaleS k (MES.buy V cost s t) :=
  ⟨MES.tied_scale hk hμ V cost s, fun r i => MES.pay_scale hk hμ V s.b t r i,
   MES.buy_scale hk hμ V cost s t⟩

/-- Equal Shares (plain), resolute and irresolute, any tie-breaking function -/
theorem mes_scale {k μ : Rat} (hk : 0 < k) (hμ : 0 < μ) (V : VCtx) (I : Inst) (init : List Pid)
    (order : List Pid → Except Err (List Pid)) :
    MES.run (scaleV μ V) (scaleI k I) init order = MES.run V I init order ∧
      MES.runAll (scaleV μ V) (scaleI k I) init order = MES.runAll V I init order :=
  MES.run_scale hk hμ V I init order

/-- at a given per-voter budget (× `k`) -/
theorem mes_scale_at {k μ : Rat} (hk : 0 < k) (hμ : 0 < μ) (V : VCtx) (I : Inst) (init : List Pid)
    (order : List Pid → Except Err (List Pid)) (b0 : Rat) :
    MES.runAt (scaleV μ V) (scaleI k I) init order (k * b0) = MES.runAt V I init order b0 ∧
      MES.runAllAt (scaleV μ V) (scaleI k I) init order (k * b0) = MES.runAllAt V I init order b0 :=
  MES.runAt_scale hk hμ V I init order b0

/-- the iterated variant (`voter_budget_increment`; start budget and increment × `k`) -/
theorem mes_scale_iterated {k μ : Rat} (hk : 0 < k) (hμ : 0 < μ) (V : VCtx) (I : Inst)
    (init : List Pid) (order : List Pid → Except Err (List Pid)) (inc : Rat) (fuel : Nat) (b0 : Rat) :
    (∀ prev, MES.iterated (scaleV μ V) (scaleI k I) init order (k * inc) fuel (k * b0) prev =
      MES.iterated V I init order inc fuel b0 prev) ∧
    (∀ prev, MES.iteratedAll (scaleV μ V) (scaleI k I) init order (k * inc) fuel (k * b0) prev =
      MES.iteratedAll V I init order inc fuel b0 prev) :=
  MES.iterated_scale hk hμ V I init order inc fuel b0

/-! ### Phragmén -/

theorem phragmen_newMax_scale (k : Rat) (C : Phragmen.Ctx) (s : Phragmen.State) (p : Pid) :
    Phragmen.newMax (Scale.Phragmen.scaleC k C) (Scale.Phragmen.scaleS k s) p =
      (Phragmen.newMax C s p).map (fun x => k * x) :=
  Phragmen.newMax_scale k C s p

/-- Phragmén: costs, budget and initial loads × `k` -/
theorem phragmen_scale {k : Rat} (hk : 0 < k) (C : Phragmen.Ctx) (projects init : List Pid)
    (loads : Nat → Rat) (order : List Pid → Except Err (List Pid)) :
    Phragmen.run (Scale.Phragmen.scaleC k C) projects init (fun i => k * loads i) order =
        Phragmen.run C projects init loads order ∧
      Phragmen.runAll (Scale.Phragmen.scaleC k C) projects init (fun i => k * loads i) order =
        Phragmen.runAll C projects init loads order :=
  Phragmen.run_scale hk C projects init loads order

/-! ### Greedy welfare -/

/-- greedy welfare, general path: costs and budget × `k`, total satisfaction × `μ` -/
theorem greedy_scale {k μ : Rat} (hk : 0 < k) (hμ : 0 < μ) (tsat : List Pid → Rat) (I : Inst)
    (init : List Pid) (order : List Pid → Except Err (List Pid)) :
    Greedy.general (fun l => μ * tsat l) (scaleI k I) init order = Greedy.general tsat I init order ∧
      Greedy.generalAll (fun l => μ * tsat l) (scaleI k I) init order =
        Greedy.generalAll tsat I init order :=
  Greedy.general_scale hk hμ tsat I init order

/-- greedy welfare, additive fast path: scores × `μ` -/
theorem greedy_additive_scale {k μ : Rat} (hk : 0 < k) (hμ : 0 < μ) (score : Pid → Rat) (I : Inst)
    (init : List Pid) (order : List Pid → Except Err (List Pid)) :
    Greedy.additive (fun q => μ * score q) (scaleI k I) init order =
      Greedy.additive score I init order :=
  Greedy.additive_scale hk hμ score I init order

/-! ### The measures are homogeneous -/

theorem normalisers_scale {k : Rat} (hk : 0 < k) (cost : Pid → Rat) (score : Pid → Rat)
    (l : List Pid) (B : Rat) :
    maxCardinality (fun p => k * cost p) l (k * B) = maxCardinality cost l B ∧
      maxCostSpec (fun p => k * cost p) l (k * B) = k * maxCostSpec cost l B ∧
      maxScoreSpec (fun p => k * cost p) score l (k * B) = maxScoreSpec cost score l B :=
  ⟨maxCardinality_scale hk cost l B, maxCostSpec_scale hk cost l B, maxScoreSpec_scale hk cost score l B⟩

theorem sat_scale {k : Rat} (hk : 0 < k) (μm : Measure) (I : Inst) (P : Profile) (b : Ballot) :
    (∀ p, satProject μm (scaleI k I) P b p = factor μm k * satProject μm I P b p) ∧
      (∀ l, sat μm (scaleI k I) P b l = factor μm k * sat μm I P b l) :=
  ⟨satProject_scale hk μm I P b, Scale.sat_scale hk μm I P b⟩

theorem factor_values (k : Rat) :
    factor .cost k = k ∧ factor .effort k = k ∧ factor .cardinality k = 1 ∧
      factor .relCardinality k = 1 ∧ factor .relCost k = 1 ∧ factor .relCostApprox k = 1 ∧
      factor .addCardinal k = 1 ∧ factor .addCardinalRel k = 1 ∧ factor .borda k = 1 ∧
      factor .cc k = 1 :=
  ⟨rfl, rfl, rfl, rfl, rfl, rfl, rfl, rfl, rfl, rfl⟩

/-! ### Whole elections: (instance, profile, measure, tie-breaking rule) -/

/-- the voters the driver builds for the scaled instance are the scaled voters -/
theorem ofProfile_scale {k : Rat} (hk : 0 < k) (μm : Measure) (I : Inst) (P : Profile) :
    VCtx.ofProfile μm (scaleI k I) P = scaleV (factor μm k) (VCtx.ofProfile μm I P) := by
  unfold VCtx.ofProfile scaleV
  congr 1
  funext i p
  show (match P[i]? with | some e => satProject μm (scaleI k I) P e.1 p | none => 0) =
    factor μm k * (match P[i]? with | some e => satProject μm I P e.1 p | none => 0)
  cases P[i]? with
  | none => exact (mul_zero (factor μm k)).symm
  | some e => exact satProject_scale hk μm I P e.1 p

theorem totalSatOf_scale {k : Rat} (hk : 0 < k) (μm : Measure) (I : Inst) (P : Profile) :
    totalSatOf μm (scaleI k I) P = fun l => factor μm k * totalSatOf μm I P l := by
  funext l
  unfold totalSatOf
  rw [← sumOver_mul_left]
  exact sumOver_congr fun e _ => by rw [Scale.sat_scale hk, mul_left_comm]

theorem profitOf_scale {k : Rat} (hk : 0 < k) (μm : Measure) (I : Inst) (P : Profile) :
    profitOf μm (scaleI k I) P = fun p => factor μm k * profitOf μm I P p := by
  funext p
  unfold profitOf
  rw [← sumOver_mul_left]
  exact sumOver_congr fun e _ => by rw [satProject_scale hk, mul_left_comm]

/-- **Equal Shares on an election**: every shipped measure, every shipped tie-breaking rule
    (keyed on the scaled costs), resolute and irresolute -/
theorem mes_scale_election {k : Rat} (hk : 0 < k) (μm : Measure) (I : Inst) (P : Profile)
    (init : List Pid) (t : Tie) :
    MES.run (VCtx.ofProfile μm (scaleI k I) P) (scaleI k I) init
        (Tie.order t (scaleI k I).cost P.approvalScore) =
      MES.run (VCtx.ofProfile μm I P) I init (Tie.order t I.cost P.approvalScore) ∧
    MES.runAll (VCtx.ofProfile μm (scaleI k I) P) (scaleI k I) init
        (Tie.order t (scaleI k I).cost P.approvalScore) =
      MES.runAll (VCtx.ofProfile μm I P) I init (Tie.order t I.cost P.approvalScore) := by
  rw [ofProfile_scale hk, scaleI_cost,
    Scale.tie_order_scale t I.cost P.approvalScore hk]
  exact mes_scale hk (factor_pos μm hk) _ I init _

/-- **greedy welfare on an election**: general path (resolute, irresolute) and additive path -/
theorem greedy_scale_election {k : Rat} (hk : 0 < k) (μm : Measure) (I : Inst) (P : Profile)
    (init : List Pid) (t : Tie) :
    Greedy.general (totalSatOf μm (scaleI k I) P) (scaleI k I) init
        (Tie.order t (scaleI k I).cost P.approvalScore) =
      Greedy.general (totalSatOf μm I P) I init (Tie.order t I.cost P.approvalScore) ∧
    Greedy.generalAll (totalSatOf μm (scaleI k I) P) (scaleI k I) init
        (Tie.order t (scaleI k I).cost P.approvalScore) =
      Greedy.generalAll (totalSatOf μm I P) I init (Tie.order t I.cost P.approvalScore) ∧
    Greedy.additive (profitOf μm (scaleI k I) P) (scaleI k I) init
        (Tie.order t (scaleI k I).cost P.approvalScore) =
      Greedy.additive (profitOf μm I P) I init (Tie.order t I.cost P.approvalScore) := by
  rw [totalSatOf_scale hk, profitOf_scale hk, scaleI_cost,
    Scale.tie_order_scale t I.cost P.approvalScore hk]
  exact ⟨(greedy_scale hk (factor_pos μm hk) _ I init _).1,
    (greedy_scale hk (factor_pos μm hk) _ I init _).2,
    greedy_additive_scale hk (factor_pos μm hk) _ I init _⟩

/-- **Phragmén on an election** (initial loads × `k`; the default loads are 0) -/
theorem phragmen_scale_election {k : Rat} (hk : 0 < k) (I : Inst) (P : Profile) (init : List Pid)
    (loads : Nat → Rat) (t : Tie) :
    Phragmen.run (Phragmen.Ctx.ofProfile (scaleI k I) P) I.projects init (fun i => k * loads i)
        (Tie.order t (scaleI k I).cost P.approvalScore) =
      Phragmen.run (Phragmen.Ctx.ofProfile I P) I.projects init loads
        (Tie.order t I.cost P.approvalScore) ∧
    Phragmen.runAll (Phragmen.Ctx.ofProfile (scaleI k I) P) I.projects init (fun i => k * loads i)
        (Tie.order t (scaleI k I).cost P.approvalScore) =
      Phragmen.runAll (Phragmen.Ctx.ofProfile I P) I.projects init loads
        (Tie.order t I.cost P.approvalScore) := by
  rw [scaleI_cost,
    Scale.tie_order_scale t I.cost P.approvalScore hk]
  exact phragmen_scale hk (Phragmen.Ctx.ofProfile I P) I.projects init loads _

/-! ### The hypotheses are satisfiable; the statements are not vacuous (k = 10/7) -/

def exI : Inst := ⟨[0, 1, 2, 3], fun p => (p : Rat) + 1, 7⟩
def exP : Profile := [(.app [0, 1], 2), (.app [1, 2], 1), (.app [0, 3], 1), (.app [2, 3], 3)]

example : (0 : Rat) < 10 / 7 := by norm_num

/-- Equal Shares with `Cost_Sat` (utilities scale with the costs) and the `max_cost` rule on the
    instance scaled by 10/7 (costs 10/7, 20/7, 30/7, 40/7, budget 10): same non-trivial outcome -/
example :
    MES.run (VCtx.ofProfile .cost (scaleI (10 / 7) exI) exP) (scaleI (10 / 7) exI) []
        (Tie.order .maxCost (scaleI (10 / 7) exI).cost exP.approvalScore) = .ok [3, 1] ∧
      MES.run (VCtx.ofProfile .cost exI exP) exI [] (Tie.order .maxCost exI.cost exP.approvalScore) =
        .ok [3, 1] := by
  constructor <;> decide +kernel

/-- the same with `Cardinality_Sat` (utilities do not scale) -/
example :
    MES.runAll (VCtx.ofProfile .cardinality (scaleI (10 / 7) exI) exP) (scaleI (10 / 7) exI) []
        (Tie.order .minCost (scaleI (10 / 7) exI).cost exP.approvalScore) = .ok [[0, 1, 2]] ∧
      MES.runAll (VCtx.ofProfile .cardinality exI exP) exI []
        (Tie.order .minCost exI.cost exP.approvalScore) = .ok [[0, 1, 2]] := by
  constructor <;> decide +kernel

/-- greedy (`Relative_Cost_Sat`, brute-force normaliser) and Phragmén on the same pair -/
example :
    Greedy.general (totalSatOf .relCost (scaleI (10 / 7) exI) exP) (scaleI (10 / 7) exI) []
        (Tie.order .lexico (scaleI (10 / 7) exI).cost exP.approvalScore) =
      Greedy.general (totalSatOf .relCost exI exP) exI [] (Tie.order .lexico exI.cost exP.approvalScore) ∧
    Phragmen.run (Phragmen.Ctx.ofProfile (scaleI (10 / 7) exI) exP) exI.projects []
        (fun i => 10 / 7 * (fun _ => 0) i) (Tie.order .lexico (scaleI (10 / 7) exI).cost exP.approvalScore) =
      .ok [0, 2, 1] := by
  constructor
  · exact (greedy_scale_election (by norm_num) .relCost exI exP [] .lexico).1
  · decide +kernel

end Pabu.C13
