/-
  Bridge C05 — the regenerated leaves of sequential Phragmén (Gen/C05.lean, produced from the current source of
  pabutools/rules/phragmen.py on every run) against the model (PabuModel/Phragmen.lean).  First the leaf formulas:
  multiplicity-weighted load, the new maximum load of a project, the overshoot (stop) test and the initial candidate
  filter.  Then the arg-min loop of a round as a whole (`keyOf`, `argminSpec`, `argminLoop_spec`): on the pool of a
  round it computes the model's `argmin` (`argminLoop_model`).
-/
import Gen.C05
import PabuProofs.Lemmas.Phragmen
namespace Pabu.Bridge.C05

/-- `new_maxload`: `inf` when `approval_scores[project] == 0`, otherwise
    `frac(Σ voters[i].total_load() + project.cost, approval_scores[project])`, the summand of the load sum
    being `PhragmenVoter.total_load` = `multiplicity * load` -/
theorem newMaxLoad (C : Phragmen.Ctx) (s : Phragmen.State) (p : Pid) :
    Phragmen.newMax C s p =
      if Gen.C05.unsupported ((Phragmen.score C p : Nat) : Rat) = true then none
      else some (Gen.C05.newMaxLoad
        (sumOver (Phragmen.supporters C p) (fun i => Gen.C05.totalLoad ((C.m i : Nat) : Rat) (s.load i)))
        (C.cost p) ((Phragmen.score C p : Nat) : Rat)) :=
  -- the two tests: `score = 0` in ℕ and `decide (score = 0)` in ℚ; the two values agree by unfolding
  if_congr (decide_eq_true_iff.trans Nat.cast_eq_zero).symm rfl rfl

/-- `unsupported` alone: the model's guard `score C p = 0` -/
theorem unsupported (C : Phragmen.Ctx) (p : Pid) :
    Gen.C05.unsupported ((Phragmen.score C p : Nat) : Rat) = decide (Phragmen.score C p = 0) := by
  unfold Gen.C05.unsupported
  rw [decide_eq_decide]
  exact Nat.cast_eq_zero

theorem totalLoad (C : Phragmen.Ctx) (s : Phragmen.State) (i : Nat) (r : List Nat) :
    sumOver (i :: r) (fun i => (C.m i : Rat) * s.load i) =
      Gen.C05.totalLoad ((C.m i : Nat) : Rat) (s.load i) + sumOver r (fun i => (C.m i : Rat) * s.load i) := rfl

/-- the round stops as soon as a minimiser has `cost + project.cost > inst.budget_limit` -/
theorem overshoots (C : Phragmen.Ctx) (s : Phragmen.State) :
    Phragmen.tied C s =
      if (Phragmen.argmin C s).any (fun p => Gen.C05.overshoots s.spent (C.cost p) C.budget) = true then []
      else Phragmen.argmin C s := rfl

/-- the initial pool: `p not in initial_budget_allocation and p.cost <= instance.budget_limit` -/
theorem isCandidate (C : Phragmen.Ctx) (projects init : List Pid) (loads : Nat → Rat) :
    Phragmen.initState C projects init loads =
      { load := loads
        pool := (sortIds projects).filter (fun p => Gen.C05.isCandidate (init.contains p) (C.cost p) C.budget)
        alloc := init
        spent := costOf C.cost init } := rfl

example : Gen.C05.overshoots 3 2 4 = true ∧ Gen.C05.overshoots 2 2 4 = false := by
  norm_num [Gen.C05.overshoots]

/-! ### the arg-min loop of a round as a whole (statement-level leaf) -/

/-- the new maximum load of one element of the loop: `x` = (project, approval score, summed loads of its supporters, cost) -/
def keyOf (x : Nat × Rat × Rat × Rat) : ERat := if x.2.1 = 0 then none else some ((x.2.2.1 + x.2.2.2) / x.2.1)

theorem ltE_eq (a b : ERat) : Gen.C05.ltE a b = !(ERat.le b a) := by
  cases a with
  | none => cases b <;> simp [Gen.C05.ltE, ERat.le]
  | some a =>
    cases b with
    | none => simp [Gen.C05.ltE, ERat.le]
    | some b =>
      simp only [Gen.C05.ltE, ERat.le]
      by_cases h : a < b
      · simp [h, not_le.mpr h]
      · simp [h, not_lt.mp h]

/-- one iteration, in terms of the element's new maximum load -/
theorem argminLoop_cons (best : Option ERat) (arg : List Nat) (x : Nat × Rat × Rat × Rat) (xs : List (Nat × Rat × Rat × Rat)) :
    Gen.C05.argminLoop best arg (x :: xs) =
      if (best.isNone || Gen.C05.ltOptE (keyOf x) best) = true then Gen.C05.argminLoop (some (keyOf x)) [x.1] xs
      else if Gen.C05.eqOptE (keyOf x) best = true then Gen.C05.argminLoop best (arg ++ [x.1]) xs
      else Gen.C05.argminLoop best arg xs := by
  rw [Gen.C05.argminLoop, keyOf]
  by_cases h : x.2.1 = 0
  · rw [if_pos (decide_eq_true h), if_pos h]
  · rw [if_neg fun h' => h (of_decide_eq_true h'), if_neg h]

/-- what the loop is to compute on the elements `xs`: nothing, or the least new maximum load and the projects attaining it, in order -/
def argminSpec (xs : List (Nat × Rat × Rat × Rat)) : Option ERat × List Nat :=
  (if xs = [] then none else some (Phragmen.emin (xs.map keyOf)), (xs.filter (fun x => keyOf x == Phragmen.emin (xs.map keyOf))).map (·.1))

/-- The loop invariant: after the elements `pre`, `best` is a least key `m` of `pre` and `arg` lists the elements of `pre`
    with that key.  A smaller key restarts the list, an equal one extends it, a larger one changes nothing. -/
private theorem inv (ys : List (Nat × Rat × Rat × Rat)) : ∀ (pre : List (Nat × Rat × Rat × Rat)) (m : ERat),
    m ∈ pre.map keyOf → (∀ a ∈ pre.map keyOf, ERat.le m a = true) →
    Gen.C05.argminLoop (some m) ((pre.filter (fun y => keyOf y == m)).map (·.1)) ys = argminSpec (pre ++ ys) := by
  induction ys with
  | nil =>
    intro pre m hm hle
    have hne : pre ≠ [] := fun e => List.ne_nil_of_mem hm (e ▸ rfl)
    rw [Gen.C05.argminLoop, List.append_nil, argminSpec, Phragmen.emin_picksLeast.unique (fun _ _ => ERat_le_antisymm) hm hle,
      if_neg hne]
  | cons x ys ih =>
    intro pre m hm hle
    have hmap : (pre ++ [x]).map keyOf = pre.map keyOf ++ [keyOf x] := by rw [List.map_append]; rfl
    have hmem : ∀ {k : ERat}, k ∈ (pre ++ [x]).map keyOf ↔ k ∈ pre.map keyOf ∨ k = keyOf x := by
      intro k; rw [hmap, List.mem_append, List.mem_singleton]
    have happ : pre ++ x :: ys = pre ++ [x] ++ ys := List.append_cons pre x ys
    rw [argminLoop_cons, happ]
    simp only [Option.isNone_some, Bool.false_or, Gen.C05.ltOptE, Gen.C05.eqOptE, ltE_eq]
    by_cases hmx : ERat.le m (keyOf x) = true
    · rw [hmx, Bool.not_true, if_neg Bool.false_ne_true]
      have hle' : ∀ a ∈ (pre ++ [x]).map keyOf, ERat.le m a = true :=
        fun a ha => (hmem.mp ha).elim (hle a) fun e => e ▸ hmx
      rw [← ih (pre ++ [x]) m (hmem.mpr (Or.inl hm)) hle', List.filter_append, List.map_append]
      by_cases heq : keyOf x = m
      · have hb : (keyOf x == m) = true := beq_iff_eq.mpr heq
        simp only [hb, if_true]
        rw [List.filter_cons_of_pos (p := fun y => keyOf y == m) hb]
        rfl
      · have hb : (keyOf x == m) = false := beq_eq_false_iff_ne.mpr heq
        simp only [hb, Bool.false_eq_true, if_false]
        rw [List.filter_cons_of_neg (p := fun y => keyOf y == m) (hb ▸ Bool.false_ne_true),
          List.filter_nil, List.map_nil, List.append_nil]
    · have hxm : ERat.le (keyOf x) m = true := (ERat_le_total _ _).resolve_right hmx
      rw [Bool.not_eq_true] at hmx
      rw [hmx, Bool.not_false, if_pos rfl]
      have hle' : ∀ a ∈ (pre ++ [x]).map keyOf, ERat.le (keyOf x) a = true :=
        fun a ha => (hmem.mp ha).elim (fun h => ERat_le_trans hxm (hle a h)) fun e => e ▸ ERat_le_refl _
      -- no element of `pre` has the new, strictly smaller key
      have hnone : pre.filter (fun y => keyOf y == keyOf x) = [] :=
        List.filter_eq_nil_iff.mpr fun y hy h =>
          Bool.false_ne_true (hmx ▸ beq_iff_eq.mp h ▸ hle _ (List.mem_map_of_mem hy))
      rw [← ih (pre ++ [x]) (keyOf x) (hmem.mpr (Or.inr rfl)) hle', List.filter_append, hnone,
        List.filter_cons_of_pos (p := fun y => keyOf y == keyOf x) (beq_iff_eq.mpr rfl)]
      rfl

/-- the WHOLE arg-min loop of a Phragmen round (statement-level leaf `Gen.C05.argminLoop`, regenerated from `for project in projects: …`),
    started as the code starts it (`None` for the least load so far, no project): the least new maximum load over the elements and the projects attaining it, in order -/
theorem argminLoop_spec (xs : List (Nat × Rat × Rat × Rat)) : Gen.C05.argminLoop none [] xs = argminSpec xs := by
  cases xs with
  | nil => simp [Gen.C05.argminLoop, argminSpec]
  | cons x ys =>
    rw [argminLoop_cons]
    simp only [Option.isNone_none, Bool.true_or, if_true]
    have h := inv ys [x] (keyOf x) List.mem_cons_self fun a ha => List.mem_singleton.mp ha ▸ ERat_le_refl _
    rwa [List.filter_cons_of_pos (p := fun y => keyOf y == keyOf x) (beq_iff_eq.mpr rfl)] at h

/-- on the pool of a round with the model's quantities (approval score, multiplicity-weighted loads of the supporters, cost) the loop
    computes the model's `argmin`: the projects whose new maximum load is the least one -/
theorem argminLoop_model (C : Phragmen.Ctx) (s : Phragmen.State) :
    (Gen.C05.argminLoop none [] (s.pool.map (fun p => (p, ((Phragmen.score C p : Nat) : Rat),
        sumOver (Phragmen.supporters C p) (fun i => (C.m i : Rat) * s.load i), C.cost p)))).2 = Phragmen.argmin C s := by
  have hk : ∀ p, keyOf (p, ((Phragmen.score C p : Nat) : Rat),
      sumOver (Phragmen.supporters C p) (fun i => (C.m i : Rat) * s.load i), C.cost p) = Phragmen.newMax C s p :=
    fun p => if_congr Nat.cast_eq_zero rfl rfl
  rw [argminLoop_spec]
  unfold argminSpec Phragmen.argmin
  simp only [List.map_map, Function.comp_def, hk, List.filter_map, List.map_id']

end Pabu.Bridge.C05
