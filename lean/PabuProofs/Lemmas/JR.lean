/-
  The proportionality checkers loop over groups of distinct ballots and weigh them by multiplicity; their
  definitions quantify over all groups of individual voters.  The two agree because every test depends on a
  group only through the set of its ballots and is monotone in the group size (`groups_quotient`); `Satisfies`
  states the definitions as propositions, which `definition`, hence `checker`, decides.  Then what the lattice of
  the notions (Properties/C14.lean) needs: bounds on `surplus`, `minOver`, `maxOver`, and that `Satisfies` is
  monotone in the `up_to` variant, invariant under reordering the allocation, antitone in the budget limit and
  trivial without voters.
-/
import PabuModel.JR
import PabuProofs.Lemmas.Basic
namespace Pabu.JR
open List

theorem forGroups_iff (M : List (Voter × Nat)) (projects : List Pid)
    (a : Nat → List Voter → List Pid → Bool) (g : List Voter → List Pid → Bool) :
    forGroups M projects a g = true ↔
      ∀ D, D <+ M → ∀ T, T <+ projects → a (groupSize D) (members D) T = true → g (members D) T = true :=
  all_sublists_imp_iff M projects (fun D T => a (groupSize D) (members D) T) (fun D T => g (members D) T)

theorem forVoters_iff (V : List Voter) (projects : List Pid)
    (a : Nat → List Voter → List Pid → Bool) (g : List Voter → List Pid → Bool) :
    forVoters V projects a g = true ↔
      ∀ S, S <+ V → ∀ T, T <+ projects → a S.length S T = true → g S T = true :=
  all_sublists_imp_iff V projects (fun S T => a S.length S T) g

theorem expand_cons (e : Voter × Nat) (r : List (Voter × Nat)) :
    expand (e :: r) = List.replicate e.2 e.1 ++ expand r := rfl

theorem members_cons (e : Voter × Nat) (r : List (Voter × Nat)) : members (e :: r) = e.1 :: members r := rfl

theorem groupSize_cons (e : Voter × Nat) (r : List (Voter × Nat)) : groupSize (e :: r) = e.2 + groupSize r := rfl

theorem expand_sublist {D M : List (Voter × Nat)} (h : D <+ M) : expand D <+ expand M := by
  induction h with
  | slnil => exact List.Sublist.refl _
  | cons a _ ih => exact ih.trans (List.sublist_append_right _ _)
  | cons_cons a _ ih => exact List.Sublist.append (List.Sublist.refl _) ih

theorem length_expand (D : List (Voter × Nat)) : (expand D).length = groupSize D := by
  induction D with
  | nil => rfl
  | cons e r ih => rw [expand_cons, List.length_append, List.length_replicate, ih, groupSize_cons]

theorem mem_expand (D : List (Voter × Nat)) (hpos : ∀ e ∈ D, 1 ≤ e.2) (x : Voter) :
    x ∈ expand D ↔ x ∈ members D := by
  induction D with
  | nil => exact Iff.rfl
  | cons e r ih =>
    have he : e.2 ≠ 0 := Nat.one_le_iff_ne_zero.mp (hpos e List.mem_cons_self)
    rw [expand_cons, members_cons, List.mem_append, List.mem_cons, List.mem_replicate,
      ih fun e' he' => hpos e' (List.mem_cons_of_mem _ he'), and_iff_right he]

theorem expand_eq_members (D : List (Voter × Nat)) (h1 : ∀ e ∈ D, e.2 = 1) : expand D = members D := by
  induction D with
  | nil => rfl
  | cons e r ih =>
    rw [expand_cons, h1 e List.mem_cons_self, ih fun x hx => h1 x (List.mem_cons_of_mem _ hx)]
    rfl

theorem exists_entry_of_mem_expand {M : List (Voter × Nat)} {v : Voter} (hv : v ∈ expand M) :
    ∃ e ∈ M, e.1 = v := by
  induction M with
  | nil => cases hv
  | cons e r ih =>
    rw [expand_cons, List.mem_append] at hv
    rcases hv with hv | hv
    · exact ⟨e, List.mem_cons_self, (List.mem_replicate.mp hv).2.symm⟩
    · obtain ⟨e', he', hve⟩ := ih hv
      exact ⟨e', List.mem_cons_of_mem _ he', hve⟩

theorem entries_of_group (M : List (Voter × Nat)) (S : List Voter) (hS : S <+ expand M) :
    ∃ D, D <+ M ∧ (∀ x, x ∈ members D ↔ x ∈ S) ∧ S.length ≤ groupSize D := by
  induction M generalizing S with
  | nil =>
    obtain rfl : S = [] := List.sublist_nil.mp hS
    exact ⟨[], List.Sublist.refl _, fun _ => Iff.rfl, le_refl _⟩
  | cons e r ih =>
    rw [expand_cons] at hS
    obtain ⟨s1, s2, rfl, h1, h2⟩ := List.sublist_append_iff.mp hS
    obtain ⟨D, hD, hmem, hlen⟩ := ih s2 h2
    obtain ⟨k, hk, rfl⟩ := List.sublist_replicate_iff.mp h1
    cases k with
    | zero => exact ⟨D, hD.cons e, hmem, hlen⟩
    | succ k =>
      refine ⟨e :: D, hD.cons_cons e, fun x => ?_, ?_⟩
      · rw [members_cons, List.mem_cons, List.mem_append, List.mem_replicate, hmem x,
          and_iff_right (Nat.succ_ne_zero k)]
      · rw [List.length_append, List.length_replicate, groupSize_cons]
        exact Nat.add_le_add hk hlen

/-- the loop over groups of distinct entries (sizes = summed multiplicities) decides the quantifier over all
    groups of individual voters -/
theorem groups_quotient (M : List (Voter × Nat)) (projects : List Pid)
    (a : Nat → List Voter → List Pid → Bool) (g : List Voter → List Pid → Bool)
    (hpos : ∀ e ∈ M, 1 ≤ e.2)
    (ha_mono : ∀ k k' S T, k ≤ k' → a k S T = true → a k' S T = true)
    (ha_congr : ∀ k S S' T, (∀ x, x ∈ S ↔ x ∈ S') → a k S T = a k S' T)
    (hg_congr : ∀ S S' T, (∀ x, x ∈ S ↔ x ∈ S') → g S T = g S' T) :
    forGroups M projects a g = forVoters (expand M) projects a g := by
  rw [Bool.eq_iff_iff, forGroups_iff, forVoters_iff]
  constructor
  · intro h S hS T hT ha
    obtain ⟨D, hD, hmem, hlen⟩ := entries_of_group M S hS
    rw [← hg_congr (members D) S T hmem]
    apply h D hD T hT
    rw [ha_congr (groupSize D) (members D) S T hmem]
    exact ha_mono _ _ S T hlen ha
  · intro h D hD T hT ha
    have hmem := mem_expand D fun e he => hpos e (hD.subset he)
    rw [← hg_congr (expand D) (members D) T hmem]
    apply h (expand D) (expand_sublist hD) T hT
    rw [length_expand, ha_congr (groupSize D) (expand D) (members D) T hmem]
    exact ha

theorem minOver_congr {S S' : List Voter} (h : ∀ x, x ∈ S ↔ x ∈ S') : minOver S = minOver S' := by
  funext p
  unfold minOver
  rw [minRat_congr (l' := S'.map fun v => v.u p) fun x => by simp only [List.mem_map, h]]

theorem maxOver_congr {S S' : List Voter} (h : ∀ x, x ∈ S ↔ x ∈ S') : maxOver S = maxOver S' := by
  funext p
  unfold maxOver
  rw [maxRat_congr (l' := S'.map fun v => v.u p) fun x => by simp only [List.mem_map, h]]

theorem voterOk_congr (card : Bool) (k : Kind) (up : UpTo) (W : List Pid) {S S' : List Voter} (T : List Pid)
    (h : ∀ x, x ∈ S ↔ x ∈ S') : voterOk card k up W S T = voterOk card k up W S' T := by
  funext v
  unfold voterOk threshold
  rw [minOver_congr h]

theorem groupApproved_congr (W : List Pid) {S S' : List Voter} (h : ∀ x, x ∈ S ↔ x ∈ S') :
    groupApproved W S = groupApproved W S' := by
  unfold groupApproved
  simp only [any_congr_mem S S' _ h]

theorem good_congr (E : Setting) (card : Bool) (k : Kind) (up : UpTo) (W : List Pid) (S S' : List Voter) (T : List Pid)
    (h : ∀ x, x ∈ S ↔ x ∈ S') : good E card k up W S T = good E card k up W S' T := by
  cases k <;>
    simp only [good, voterOk_congr card _ _ W T h, any_congr_mem S S' _ h, all_congr_mem S S' _ h,
      minOver_congr h, maxOver_congr h, groupApproved_congr W h]

theorem adm_noncore (E : Setting) (card : Bool) {k : Kind} (hk : k ≠ .core) : adm E card k = adm E card .ejr := by
  cases k with
  | core => exact absurd rfl hk
  | strong | ejr | pjr => rfl

theorem adm_congr (E : Setting) (card : Bool) (k : Kind) (n : Nat) (S S' : List Voter) (T : List Pid)
    (h : ∀ x, x ∈ S ↔ x ∈ S') : adm E card k n S T = adm E card k n S' T := by
  have hE : S.isEmpty = S'.isEmpty := by
    rw [Bool.eq_iff_iff, List.isEmpty_iff, List.isEmpty_iff, eq_nil_congr_mem h]
  cases k <;> simp only [adm, unanimous, hE, all_congr_mem S S' _ h]

theorem largeEnough_mono (E : Setting) (hB : 0 ≤ E.budget) (k k' : Nat) (T : List Pid) (hk : k ≤ k')
    (h : largeEnough E k T = true) : largeEnough E k' T = true :=
  decide_eq_true ((of_decide_eq_true h).trans (mul_le_mul_of_nonneg_right (Nat.cast_le.mpr hk) hB))

theorem adm_mono (E : Setting) (hB : 0 ≤ E.budget) (card : Bool) (k : Kind) (n n' : Nat) (S : List Voter) (T : List Pid)
    (hn : n ≤ n') (h : adm E card k n S T = true) : adm E card k n' S T = true := by
  cases k <;> simp only [adm, Bool.and_eq_true, and_assoc] at h ⊢ <;>
    exact ⟨largeEnough_mono E hB n n' T hn h.1, h.2⟩

/-- checker = definition, all ten notions, approval and cardinal -/
theorem checker_eq_definition (E : Setting) (M : List (Voter × Nat)) (card : Bool) (k : Kind) (up : UpTo) (W : List Pid)
    (hB : 0 ≤ E.budget) (hpos : ∀ e ∈ M, 1 ≤ e.2) :
    checker E M card k up W = definition E M card k up W :=
  groups_quotient M E.projects (adm E card k) (good E card k up W) hpos
    (adm_mono E hB card k) (adm_congr E card k) (good_congr E card k up W)

def Large (E : Setting) (S : List Voter) (T : List Pid) : Prop :=
  costOf E.cost T * (E.n : Rat) ≤ (S.length : Rat) * E.budget

/-- the (group, project set) pairs a notion speaks about: for the core every non-empty large-enough group,
    otherwise the `T`-cohesive groups (approval: every member approves all of `T`; cardinal: the scores
    claimed are the pointwise minima of the group, so every large-enough group qualifies) -/
def AdmP (E : Setting) (card : Bool) (k : Kind) (S : List Voter) (T : List Pid) : Prop :=
  match k with
  | .core => Large E S T ∧ S ≠ []
  | _ => Large E S T ∧ S ≠ [] ∧ T ≠ [] ∧ (card = true ∨ ∀ v ∈ S, ∀ p ∈ T, v.app p = true)

def VoterOkP (card : Bool) (k : Kind) (up : UpTo) (W : List Pid) (S : List Voter) (T : List Pid) (v : Voter) : Prop :=
  threshold card k S T v ≤ satV v W + surplus up ((missing W T).map v.u)

def GoodP (E : Setting) (card : Bool) (k : Kind) (up : UpTo) (W : List Pid) (S : List Voter) (T : List Pid) : Prop :=
  match k with
  | .core => ∃ v ∈ S, VoterOkP card .core up W S T v
  | .ejr => ∃ v ∈ S, VoterOkP card .ejr up W S T v
  | .strong => ∀ v ∈ S, VoterOkP card .strong .none W S T v
  | .pjr =>
    if card = true then
      sumOver T (minOver S) ≤ sumOver W (maxOver S) + surplus up ((missing W T).map (maxOver S))
    else
      sumOver T E.full ≤ sumOver (groupApproved W S) E.full + surplus up ((missing W T).map E.full)

/-- allocation `W` satisfies notion `(k, up)` for the voters `V`: the textbook statement -/
def Satisfies (E : Setting) (V : List Voter) (card : Bool) (k : Kind) (up : UpTo) (W : List Pid) : Prop :=
  ∀ S, S <+ V → ∀ T, T <+ E.projects → AdmP E card k S T → GoodP E card k up W S T

theorem largeEnough_iff (E : Setting) (S : List Voter) (T : List Pid) : largeEnough E S.length T = true ↔ Large E S T :=
  decide_eq_true_iff

theorem unanimous_iff (S : List Voter) (T : List Pid) : unanimous S T = true ↔ ∀ v ∈ S, ∀ p ∈ T, v.app p = true := by
  simp only [unanimous, List.all_eq_true]

theorem adm_iff (E : Setting) (card : Bool) (k : Kind) (S : List Voter) (T : List Pid) :
    adm E card k S.length S T = true ↔ AdmP E card k S T := by
  cases k <;>
    simp only [adm, AdmP, Bool.and_eq_true, Bool.or_eq_true, largeEnough_iff, isEmpty_false_iff, unanimous_iff, and_assoc]

theorem voterOk_iff (card : Bool) (k : Kind) (up : UpTo) (W : List Pid) (S : List Voter) (T : List Pid) (v : Voter) :
    voterOk card k up W S T v = true ↔ VoterOkP card k up W S T v :=
  decide_eq_true_iff

theorem goodP_pjr_app (E : Setting) (up : UpTo) (W : List Pid) (S : List Voter) (T : List Pid) :
    GoodP E false .pjr up W S T ↔
      sumOver T E.full ≤ sumOver (groupApproved W S) E.full + surplus up ((missing W T).map E.full) := by
  simp only [GoodP, Bool.false_eq_true, if_false]

theorem goodP_pjr_card (E : Setting) (up : UpTo) (W : List Pid) (S : List Voter) (T : List Pid) :
    GoodP E true .pjr up W S T ↔
      sumOver T (minOver S) ≤ sumOver W (maxOver S) + surplus up ((missing W T).map (maxOver S)) := by
  simp only [GoodP, if_true]

theorem good_iff (E : Setting) (card : Bool) (k : Kind) (up : UpTo) (W : List Pid) (S : List Voter) (T : List Pid) :
    good E card k up W S T = true ↔ GoodP E card k up W S T := by
  cases k with
  | core | ejr => simp only [good, GoodP, List.any_eq_true, voterOk_iff]
  | strong => simp only [good, GoodP, List.all_eq_true, voterOk_iff]
  | pjr =>
    cases card
    · rw [goodP_pjr_app]
      exact decide_eq_true_iff
    · rw [goodP_pjr_card]
      exact decide_eq_true_iff

theorem definition_iff (E : Setting) (M : List (Voter × Nat)) (card : Bool) (k : Kind) (up : UpTo) (W : List Pid) :
    definition E M card k up W = true ↔ Satisfies E (expand M) card k up W := by
  unfold definition Satisfies
  simp only [forVoters_iff, adm_iff, good_iff]

theorem checker_iff_satisfies (E : Setting) (M : List (Voter × Nat)) (card : Bool) (k : Kind) (up : UpTo) (W : List Pid)
    (hB : 0 ≤ E.budget) (hpos : ∀ e ∈ M, 1 ≤ e.2) :
    checker E M card k up W = true ↔ Satisfies E (expand M) card k up W := by
  rw [checker_eq_definition E M card k up W hB hpos]
  exact definition_iff E M card k up W

theorem missing_nil_iff (W T : List Pid) : missing W T = [] ↔ ∀ p ∈ T, p ∈ W := by
  unfold missing
  rw [List.filter_eq_nil_iff]
  simp

theorem surplus_nil (up : UpTo) : surplus up [] = 0 := by
  cases up <;> rfl

theorem surplus_any_le_one (l : List Rat) : surplus .any l ≤ surplus .one l := by
  cases l with
  | nil => exact le_refl _
  | cons x r => exact le_getD_maxRat (getD_minRat_mem (List.cons_ne_nil x r))

theorem surplus_none_le_any (l : List Rat) (hnn : ∀ x ∈ l, 0 ≤ x) : surplus .none l ≤ surplus .any l := by
  cases l with
  | nil => exact le_refl _
  | cons x r => exact hnn _ (getD_minRat_mem (List.cons_ne_nil x r))

theorem surplus_map_mono (up : UpTo) (l : List Pid) (f g : Pid → Rat) (h : ∀ p ∈ l, f p ≤ g p) :
    surplus up (l.map f) ≤ surplus up (l.map g) := by
  by_cases hl : l = []
  · subst hl
    exact le_refl _
  · have hne (f : Pid → Rat) : l.map f ≠ [] := mt List.map_eq_nil_iff.mp hl
    cases up with
    | none => exact le_refl _
    | any =>
      obtain ⟨p, hp, hg⟩ := List.mem_map.mp (getD_minRat_mem (hne g))
      exact (getD_minRat_le (List.mem_map_of_mem hp)).trans ((h p hp).trans_eq hg)
    | one =>
      obtain ⟨p, hp, hf⟩ := List.mem_map.mp (getD_maxRat_mem (hne f))
      exact (hf.symm.trans_le (h p hp)).trans (le_getD_maxRat (List.mem_map_of_mem hp))

theorem minOver_le (S : List Voter) (v : Voter) (hv : v ∈ S) (p : Pid) : minOver S p ≤ v.u p :=
  getD_minRat_le (List.mem_map_of_mem (f := fun v => v.u p) hv)

theorem le_maxOver (S : List Voter) (v : Voter) (hv : v ∈ S) (p : Pid) : v.u p ≤ maxOver S p :=
  le_getD_maxRat (List.mem_map_of_mem (f := fun v => v.u p) hv)

theorem le_minOver (S : List Voter) (hS : S ≠ []) (p : Pid) (a : Rat) (h : ∀ v ∈ S, a ≤ v.u p) : a ≤ minOver S p := by
  obtain ⟨v, hv, hm⟩ := List.mem_map.mp (getD_minRat_mem (l := S.map fun v => v.u p) (mt List.map_eq_nil_iff.mp hS))
  exact (h v hv).trans_eq hm

theorem maxOver_nonneg (S : List Voter) (p : Pid) (h : ∀ v ∈ S, 0 ≤ v.u p) : 0 ≤ maxOver S p := by
  cases S with
  | nil => exact le_refl _
  | cons v r => exact (h v List.mem_cons_self).trans (le_maxOver (v :: r) v List.mem_cons_self p)

theorem goodP_mono (E : Setting) (card : Bool) (k : Kind) (up up' : UpTo) (W : List Pid) (S : List Voter) (T : List Pid)
    (h1 : ∀ v ∈ S, surplus up ((missing W T).map v.u) ≤ surplus up' ((missing W T).map v.u))
    (h2 : surplus up ((missing W T).map (maxOver S)) ≤ surplus up' ((missing W T).map (maxOver S)))
    (h3 : surplus up ((missing W T).map E.full) ≤ surplus up' ((missing W T).map E.full))
    (hg : GoodP E card k up W S T) : GoodP E card k up' W S T := by
  cases k with
  | core | ejr =>
    obtain ⟨v, hv, h⟩ := hg
    exact ⟨v, hv, h.trans (add_le_add (le_refl _) (h1 v hv))⟩
  | strong => exact hg
  | pjr =>
    cases card
    · rw [goodP_pjr_app] at hg ⊢
      exact hg.trans (add_le_add (le_refl _) h3)
    · rw [goodP_pjr_card] at hg ⊢
      exact hg.trans (add_le_add (le_refl _) h2)

theorem satV_le_groupApproved (full : Pid → Rat) (hfull : ∀ p, 0 ≤ full p) (S : List Voter) (v : Voter) (hv : v ∈ S)
    (hu : ∀ p, v.u p = if v.app p = true then full p else 0) (W : List Pid) :
    satV v W ≤ sumOver (groupApproved W S) full := by
  unfold satV groupApproved
  rw [sumOver_filter_ite]
  refine sumOver_mono fun p _ => ?_
  rw [hu p]
  by_cases hp : v.app p = true
  · rw [if_pos hp, if_pos (List.any_eq_true.mpr ⟨v, hv, hp⟩)]
  · rw [if_neg hp]
    split
    · exact hfull p
    · exact le_refl _

theorem missing_perm {W W' : List Pid} (h : W.Perm W') (T : List Pid) : missing W T = missing W' T := by
  unfold missing
  apply List.filter_congr
  intro p _
  rw [h.contains_eq]

theorem goodP_perm (E : Setting) (card : Bool) (k : Kind) (up : UpTo) {W W' : List Pid} (h : W.Perm W')
    (S : List Voter) (T : List Pid) : GoodP E card k up W S T → GoodP E card k up W' S T := by
  have hv : ∀ k' up' v, VoterOkP card k' up' W S T v → VoterOkP card k' up' W' S T v := by
    intro k' up' v hv
    unfold VoterOkP satV at hv ⊢
    rw [← missing_perm h T, ← sumOver_perm h v.u]
    exact hv
  cases k with
  | core => rintro ⟨v, hvS, hok⟩; exact ⟨v, hvS, hv _ _ v hok⟩
  | ejr => rintro ⟨v, hvS, hok⟩; exact ⟨v, hvS, hv _ _ v hok⟩
  | strong => intro hall v hvS; exact hv _ _ v (hall v hvS)
  | pjr =>
    unfold GoodP
    simp only
    by_cases hc : card = true
    · rw [if_pos hc, if_pos hc, ← missing_perm h T, ← sumOver_perm h]
      exact id
    · rw [if_neg hc, if_neg hc, ← missing_perm h T]
      rw [show sumOver (groupApproved W S) E.full = sumOver (groupApproved W' S) E.full from
        sumOver_perm (h.filter _) E.full]
      exact id

theorem satisfies_perm (E : Setting) (V : List Voter) (card : Bool) (k : Kind) (up : UpTo) {W W' : List Pid}
    (h : W.Perm W') : Satisfies E V card k up W → Satisfies E V card k up W' :=
  fun hs S hS T hT ha => goodP_perm E card k up h S T (hs S hS T hT ha)

/-- satisfying a notion for a larger budget limit is stronger: more groups are large enough -/
theorem satisfies_budget_anti (E : Setting) (B' : Rat) (hB : E.budget ≤ B') (V : List Voter) (card : Bool)
    (k : Kind) (up : UpTo) (W : List Pid) :
    Satisfies { E with budget := B' } V card k up W → Satisfies E V card k up W := by
  intro hs S hS T hT ha
  have hL : Large E S T → Large { E with budget := B' } S T := by
    intro hl
    unfold Large at hl ⊢
    have : (0 : Rat) ≤ (S.length : Rat) := Nat.cast_nonneg _
    have := mul_le_mul_of_nonneg_left hB this
    exact le_trans hl this
  have ha' : AdmP { E with budget := B' } card k S T := by
    cases k with
    | core => exact ⟨hL ha.1, ha.2⟩
    | strong => exact ⟨hL ha.1, ha.2⟩
    | ejr => exact ⟨hL ha.1, ha.2⟩
    | pjr => exact ⟨hL ha.1, ha.2⟩
  have hg := hs S hS T hT ha'
  cases k <;> exact hg

theorem satisfies_no_voters (E : Setting) (card : Bool) (k : Kind) (up : UpTo) (W : List Pid) :
    Satisfies E [] card k up W := by
  intro S hS T _ ha
  have hS0 : S = [] := List.sublist_nil.mp hS
  cases k with
  | core => exact absurd hS0 ha.2
  | strong => exact absurd hS0 ha.2.1
  | ejr => exact absurd hS0 ha.2.1
  | pjr => exact absurd hS0 ha.2.1

end Pabu.JR
