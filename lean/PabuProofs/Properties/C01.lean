/-
  C01 — every rule outcome is a feasible set of distinct instance projects (model side).
  One theorem per rule model the driver executes: whenever the rule returns an allocation `W` it has no
  duplicates, contains only projects of the instance, contains the initial allocation, and its total
  cost is within the budget limit.  For every shipped tie-breaking rule except the refusing one the tie
  order is total (`tie_order_total`); that the greedy general path and Phragmén then return is
  `C03.general_returns`, `C05.run_returns`.  Each theorem is read off what C02–C05 prove about the rule.
-/
import PabuProofs.Properties.C02
import PabuProofs.Properties.C03
import PabuProofs.Properties.C04
import PabuProofs.Properties.C05
namespace Pabu.C01
open GreedyAux

/-- every shipped tie-breaking rule (and every permutation rule) returns, when it returns, a
    permutation of the tied projects: members of the tied set, non-empty when the set is -/
theorem tie_order_ok (t : Tie) (cost : Pid → Rat) (score : Pid → Nat) (T l : List Pid)
    (h : t.order cost score T = .ok l) : l.Perm T ∧ (∀ x ∈ l, x ∈ T) ∧ (T ≠ [] → l ≠ []) :=
  ⟨Tie.order_perm t cost score T l h, perm_mem_ne (Tie.order_perm t cost score T l h)⟩

/-- only the refusing rule can raise -/
theorem tie_order_total (t : Tie) (ht : t ≠ .refuse) (cost : Pid → Rat) (score : Pid → Nat) (T : List Pid) :
    ∃ l, t.order cost score T = .ok l :=
  ⟨_, Tie.order_ok ht cost score T⟩

/-! ### Equal Shares (initial allocation empty) -/

theorem mes_resolute {V : VCtx} {I : Inst} (h : MES.InputOK V I []) (hB : 0 ≤ I.budget) (t : Tie) (score : Pid → Nat)
    {W : List Pid} (hW : MES.run V I [] (t.order I.cost score) = .ok W) :
    W.Nodup ∧ (∀ p ∈ W, p ∈ I.projects) ∧ costOf I.cost W ≤ I.budget := by
  obtain ⟨h1, _, h3, h4⟩ := C02.run_outcome h hB (fun T l hl => (tie_order_ok t I.cost score T l hl).2.1) hW
  exact ⟨h3, h4, by rwa [costOf_nil, add_zero] at h1⟩

theorem mes_irresolute {V : VCtx} {I : Inst} (h : MES.InputOK V I []) (hB : 0 ≤ I.budget) (t : Tie) (score : Pid → Nat)
    {Ws : List (List Pid)} (hWs : MES.runAll V I [] (t.order I.cost score) = .ok Ws) :
    ∀ W ∈ Ws, W.Nodup ∧ (∀ p ∈ W, p ∈ I.projects) ∧ costOf I.cost W ≤ I.budget := by
  intro W hW
  obtain ⟨h1, _, h3, h4⟩ := C02.runAll_outcome h hB (fun T l hl => (tie_order_ok t I.cost score T l hl).2.1) hWs W hW
  exact ⟨h3, h4, by rwa [costOf_nil, add_zero] at h1⟩

/-! ### Greedy (any feasible initial allocation, any satisfaction function) -/

theorem greedy_general (tsat : List Pid → Rat) (I : Inst) (init : List Pid) (hwf : WFInput I init) (t : Tie) (score : Pid → Nat)
    (W : List Pid) (h : Greedy.general tsat I init (t.order I.cost score) = .ok W) : ValidOutcome I init W :=
  (C03.general_follows_definition_tie tsat I init hwf t score W h).1

theorem greedy_general_irresolute (tsat : List Pid → Rat) (I : Inst) (init : List Pid) (hwf : WFInput I init) (t : Tie)
    (score : Pid → Nat) (Ws : List (List Pid)) (h : Greedy.generalAll tsat I init (t.order I.cost score) = .ok Ws) :
    ∀ W ∈ Ws, ValidOutcome I init W :=
  fun W hW => ((C03.generalAll_follows_definition_tie tsat I init hwf t score Ws h).1 W hW).1

theorem greedy_additive (sc : Pid → Rat) (I : Inst) (init : List Pid) (hwf : WFInput I init) (t : Tie) (score : Pid → Nat)
    (W : List Pid) (h : Greedy.additive sc I init (t.order I.cost score) = .ok W) : ValidOutcome I init W :=
  (C03.additive_exhaustive_tie sc I init hwf t score W h).1

/-! ### Sequential Phragmén (any feasible initial allocation, any initial loads) -/

theorem phragmen_resolute (C : Phragmen.Ctx) (projects init : List Pid) (loads : Nat → Rat) (hinit : init.Nodup)
    (hsub : ∀ p ∈ init, p ∈ projects) (hcost : costOf C.cost init ≤ C.budget) (t : Tie) (score : Pid → Nat)
    (W : List Pid) (h : Phragmen.run C projects init loads (t.order C.cost score) = .ok W) :
    ValidOutcome (Phragmen.instOf C projects) init W :=
  (C05.run_follows_definition_tie C projects init loads hinit hsub hcost t score W h).1

theorem phragmen_irresolute (C : Phragmen.Ctx) (projects init : List Pid) (loads : Nat → Rat) (hinit : init.Nodup)
    (hsub : ∀ p ∈ init, p ∈ projects) (hcost : costOf C.cost init ≤ C.budget) (t : Tie) (score : Pid → Nat)
    (Ws : List (List Pid)) (h : Phragmen.runAll C projects init loads (t.order C.cost score) = .ok Ws) :
    ∀ W ∈ Ws, ValidOutcome (Phragmen.instOf C projects) init W :=
  (C05.runAll_follows_definition_tie C projects init loads hinit hsub hcost t score Ws h).1

/-! ### Welfare maximiser, primal/dual path (always returns; any enumeration order of the instance; any real
    profits — total satisfactions may be negative) -/

theorem maxwelfare_primalDual (I : Inst) (profit : Pid → Rat) (init enum : List Pid)
    (hcost : ∀ p ∈ I.projects, 0 ≤ I.cost p)
    (hinit : I.isFeasible init = true) (hperm : enum.Perm I.projects) (hnd : enum.Nodup) (hinitnd : init.Nodup) :
    (MaxWelfare.primalDual I profit init enum).Nodup ∧ init <+: MaxWelfare.primalDual I profit init enum ∧
      I.isFeasible (MaxWelfare.primalDual I profit init enum) = true :=
  ⟨MaxWelfare.primalDual_nodup I profit init enum hcost hinit hperm hnd hinitnd,
   MaxWelfare.primalDual_contains_init I profit init enum,
   MaxWelfare.primalDual_feasible I profit init enum hcost hinit hperm hnd⟩

/-! ### The hypotheses are satisfiable -/

example : WFInput ⟨[0, 1, 2], fun p => (p : Rat), 2⟩ [0] := by
  refine ⟨by decide, fun p _ => Nat.cast_nonneg p, by decide, by decide, ?_⟩
  show ((0 : Nat) : Rat) + 0 ≤ 2
  norm_num

example : (Tie.minCost).order (fun p => if p = 2 then 1 else 2) (fun _ => 0) [2, 0, 1] = .ok [2, 0, 1] := by decide +kernel

end Pabu.C01
