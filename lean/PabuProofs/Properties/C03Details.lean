/-
  C03 (analytics of the additive fast path) — `greedy_utilitarian_welfare(..., analytics=True)` on the resolute fast path
  returns its selection with a `GreedyWelfareAllocationDetails` object.  Model: `Greedy.passTrace` (the pass that also records,
  for every project it meets, whether it was taken and what was left then) and `Greedy.additiveDetails`.  The record is shown
  to be a faithful record of `Greedy.pass`, and the details list to carry it in the order of the tie-breaking rule.
-/
import PabuProofs.Lemmas.Greedy
namespace Pabu
namespace Greedy

/-! ### the recorded pass -/

theorem passTrace_keys (cost : Pid → Rat) : ∀ (rem : Rat) (ps : List Pid), (passTrace cost rem ps).map Prod.fst = ps := by
  intro rem ps
  fun_induction passTrace cost rem ps with
  | case1 => rfl
  | case2 rem p ps h ih => exact congrArg (p :: ·) ih
  | case3 rem p ps h ih => exact congrArg (p :: ·) ih

/-- a valid record of the pass started with `rem`: taken iff it fits, and the money left is updated by the cost -/
def ValidTrace (cost : Pid → Rat) : Rat → List (Pid × Option Rat) → Prop
  | _, [] => True
  | rem, (p, some r) :: t => cost p ≤ rem ∧ r = rem - cost p ∧ ValidTrace cost r t
  | rem, (p, none) :: t => rem < cost p ∧ ValidTrace cost rem t

theorem passTrace_valid (cost : Pid → Rat) : ∀ (rem : Rat) (ps : List Pid), ValidTrace cost rem (passTrace cost rem ps) := by
  intro rem ps
  fun_induction passTrace cost rem ps with
  | case1 => trivial
  | case2 rem p ps h ih => exact ⟨h, rfl, ih⟩
  | case3 rem p ps h ih => exact ⟨lt_of_not_ge h, ih⟩

def taken (t : List (Pid × Option Rat)) : List Pid := t.filterMap (fun e => e.2.map (fun _ => e.1))

theorem passTrace_selected (cost : Pid → Rat) : ∀ (rem : Rat) (ps : List Pid), taken (passTrace cost rem ps) = pass cost rem ps := by
  intro rem ps
  fun_induction passTrace cost rem ps with
  | case1 => rfl
  | case2 rem p ps h ih => rw [pass_cons, if_pos h, ← ih]; rfl
  | case3 rem p ps h ih => rw [pass_cons, if_neg h, ← ih]; rfl

theorem passTrace_nonneg (cost : Pid → Rat) : ∀ (rem : Rat) (ps : List Pid), 0 ≤ rem →
    ∀ e ∈ passTrace cost rem ps, ∀ r, e.2 = some r → 0 ≤ r := by
  intro rem ps
  fun_induction passTrace cost rem ps with
  | case1 => exact fun _ _ he => nomatch he
  | case2 rem p ps h ih =>
    intro _ e he r hr
    rcases List.mem_cons.mp he with rfl | he
    · exact Option.some.inj hr ▸ sub_nonneg.mpr h
    · exact ih (sub_nonneg.mpr h) e he r hr
  | case3 rem p ps h ih =>
    intro hrem e he r hr
    rcases List.mem_cons.mp he with rfl | he
    · exact nomatch hr
    · exact ih hrem e he r hr

/-- budget 5, costs 2, 3, 4 in tie order: the first two are taken (3 and 0 left), the third is discarded -/
example : passTrace (fun p => (p : Rat) + 2) 5 [0, 1, 2] = [(0, some 3), (1, some 0), (2, none)] := by decide +kernel

/-- what is left after the whole pass -/
def finalRemaining (cost : Pid → Rat) : Rat → List Pid → Rat
  | rem, [] => rem
  | rem, p :: ps => if cost p ≤ rem then finalRemaining cost (rem - cost p) ps else finalRemaining cost rem ps

theorem passTrace_conservation (cost : Pid → Rat) : ∀ (rem : Rat) (ps : List Pid),
    rem = costOf cost (pass cost rem ps) + finalRemaining cost rem ps := by
  intro rem ps
  fun_induction pass cost rem ps with
  | case1 rem => exact (zero_add rem).symm
  | case2 rem p ps h ih =>
    rw [finalRemaining, if_pos h, costOf_cons, add_assoc, ← ih, add_sub_cancel]
  | case3 rem p ps h ih => rw [finalRemaining, if_neg h]; exact ih

theorem lookup_cons_ne {e : Pid × Option Rat} {t : List (Pid × Option Rat)} {p : Pid} (h : e.1 ≠ p) :
    lookupTrace (e :: t) p = lookupTrace t p := by
  unfold lookupTrace
  rw [List.find?_cons_of_neg (p := fun x : Pid × Option Rat => x.1 == p) (by rwa [beq_iff_eq])]

theorem lookup_cons_eq {e : Pid × Option Rat} {t : List (Pid × Option Rat)} : lookupTrace (e :: t) e.1 = e.2 := by
  unfold lookupTrace
  rw [List.find?_cons_of_pos (p := fun x : Pid × Option Rat => x.1 == e.1) (beq_self_eq_true _)]

theorem lookupTrace_mem {t : List (Pid × Option Rat)} {p : Pid} {r : Rat} (h : lookupTrace t p = some r) :
    ∃ e ∈ t, e.2 = some r := by
  unfold lookupTrace at h
  split at h
  next e he => exact ⟨e, List.mem_of_find?_eq_some he, h⟩
  next => cases h

/-- for distinct projects: a remaining budget is recorded for `p` iff the pass took `p` -/
theorem lookup_isSome_iff (cost : Pid → Rat) : ∀ (rem : Rat) (ps : List Pid), ps.Nodup → ∀ p,
    (lookupTrace (passTrace cost rem ps) p).isSome = true ↔ p ∈ pass cost rem ps := by
  intro rem ps
  fun_induction passTrace cost rem ps with
  | case1 => exact fun _ p => ⟨fun h => (nomatch h), fun h => (nomatch h)⟩
  | case2 rem q ps h ih =>
    intro hnd p
    rw [pass_cons, if_pos h, List.mem_cons]
    by_cases hp : q = p
    · subst hp
      rw [lookup_cons_eq (e := (q, some (rem - cost q)))]
      exact iff_of_true rfl (Or.inl rfl)
    · rw [lookup_cons_ne (e := (q, some (rem - cost q))) hp, ih (List.nodup_cons.mp hnd).2 p]
      exact ⟨Or.inr, fun h' => h'.resolve_left fun e => hp e.symm⟩
  | case3 rem q ps h ih =>
    intro hnd p
    rw [pass_cons, if_neg h]
    by_cases hp : q = p
    · subst hp
      rw [lookup_cons_eq (e := (q, none))]
      exact iff_of_false (fun h' => nomatch h')
        fun h' => (List.nodup_cons.mp hnd).1 (pass_subset cost ps rem q h')
    · rw [lookup_cons_ne (e := (q, none)) hp]
      exact ih (List.nodup_cons.mp hnd).2 p

/-! ### the details object -/

/-- the call and its details, side by side: same tie-broken list, same pass -/
theorem additive_eq (score : Pid → Rat) (I : Inst) (init : List Pid) (order : List Pid → Except Err (List Pid))
    (ps : List Pid) (h : order ((sortIds I.projects).filter (fun p => !init.contains p)) = .ok ps) :
    additive score I init order = .ok (init ++ pass I.cost (I.budget - costOf I.cost init)
      (sortLe (fun a b => ERat.le (density score I.cost b) (density score I.cost a)) ps)) := by
  unfold additive; rw [h]

/-- `details.projects`: one entry per project the tie-breaking rule returned, in that order, with the density as score, and a
    remaining budget recorded exactly for the projects the call selects after the initial allocation -/
theorem additiveDetails_spec (score : Pid → Rat) (I : Inst) (init : List Pid) (order : List Pid → Except Err (List Pid))
    (ps : List Pid) (h : order ((sortIds I.projects).filter (fun p => !init.contains p)) = .ok ps) (hnd : ps.Nodup) :
    ∃ ds, additiveDetails score I init order = .ok ds ∧
      ds.map ProjectDetails.project = ps ∧
      (∀ d ∈ ds, d.score = density score I.cost d.project) ∧
      (∀ d ∈ ds, d.remaining.isSome = true ↔
        d.project ∈ pass I.cost (I.budget - costOf I.cost init)
          (sortLe (fun a b => ERat.le (density score I.cost b) (density score I.cost a)) ps)) ∧
      (∀ d ∈ ds, ∀ r, d.remaining = some r → 0 ≤ I.budget - costOf I.cost init → 0 ≤ r) := by
  unfold additiveDetails
  rw [h]
  refine ⟨_, rfl, ?_, ?_, ?_, ?_⟩
  · rw [List.map_map]
    show List.map (fun p => p) ps = ps
    exact List.map_id'' (fun _ => rfl) ps
  · intro d hd
    obtain ⟨p, _, rfl⟩ := List.mem_map.1 hd
    rfl
  · intro d hd
    obtain ⟨p, _, rfl⟩ := List.mem_map.1 hd
    exact lookup_isSome_iff I.cost _ _ ((sortLe_perm _ ps).nodup_iff.2 hnd) p
  · intro d hd r hr h0
    obtain ⟨p, _, rfl⟩ := List.mem_map.1 hd
    obtain ⟨e, he, hr'⟩ := lookupTrace_mem hr
    exact passTrace_nonneg I.cost _ _ h0 e he r hr'

end Greedy
end Pabu
