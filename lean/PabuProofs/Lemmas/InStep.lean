/-
  Two round-based rules `R` (on states `σ`) and `R'` (on states `σ'`) whose runs agree, errors
  included, from related states.  One induction per run (`run_sim`, `runAll_sim`) serves two
  notions:
  * `Expand.InStep R R' Rel A`: related states have the SAME tied list; any order function will
    do.  Used for C06 (the voters of `R'` are copies of the voters of `R`) and for the scaling
    clause of C13 (`R'` is `R` with all money multiplied).
  * `RoundRule.Sim R R' Rel`: related states have the same tied projects in ANY enumeration; the
    order function must not look at the enumeration (`IsTieOrder`).  Used for the hash-seed and
    voter-order clauses of C13 and for the lazy rounds of Equal Shares.
-/
import PabuProofs.Lemmas.RoundRule
namespace Pabu
variable {σ σ' : Type}

section Core
variable {R : RoundRule σ} {R' : RoundRule σ'} {Rel : σ → σ' → Prop}
  {order : List Pid → Except Err (List Pid)}
  (hout : ∀ s s', Rel s s' → R'.out s' = R.out s)
  (htied : ∀ s s', Rel s s' →
    order (R'.tied s') = order (R.tied s) ∧ (R'.tied s' = [] ↔ R.tied s = []))
include hout htied

theorem RoundRule.run_sim
    (hbuy : ∀ s s' t r, Rel s s' → order (R.tied s) = .ok (t :: r) → Rel (R.buy s t) (R'.buy s' t)) :
    ∀ n s s', Rel s s' → R'.run order n s' = R.run order n s := by
  intro n
  induction n with
  | zero => intro s s' hr; exact congrArg Except.ok (hout s s' hr)
  | succ n ih =>
    intro s s' hr
    rw [RoundRule.run, RoundRule.run, hout s s' hr, (htied s s' hr).1]
    refine if_congr (htied s s' hr).2 rfl ?_
    cases ho : order (R.tied s) with
    | error e => rfl
    | ok l =>
      cases l with
      | nil => rfl
      | cons t r => exact ih _ _ (hbuy s s' t r hr ho)

theorem RoundRule.runAll_sim
    (hbuy : ∀ s s' l, Rel s s' → order (R.tied s) = .ok l → ∀ t ∈ l, Rel (R.buy s t) (R'.buy s' t)) :
    ∀ n s s', Rel s s' → R'.runAll order n s' = R.runAll order n s := by
  intro n
  induction n with
  | zero => intro s s' hr; exact congrArg (fun W => Except.ok [W]) (hout s s' hr)
  | succ n ih =>
    intro s s' hr
    rw [RoundRule.runAll_succ, RoundRule.runAll_succ, hout s s' hr, (htied s s' hr).1]
    refine if_congr (htied s s' hr).2 rfl ?_
    cases ho : order (R.tied s) with
    | error e => rfl
    | ok l => exact foldlM_accStep_congr _ _ l [] fun t ht => ih _ _ (hbuy s s' l hr ho t ht)

end Core

/-! ### The same tied projects, in any enumeration -/

structure IsTieOrder (order : List Pid → Except Err (List Pid)) : Prop where
  mem : ∀ T l, order T = .ok l → ∀ x ∈ l, x ∈ T
  perm_eq : ∀ l₁ l₂ : List Pid, l₁.Perm l₂ → order l₁ = order l₂

structure RoundRule.Sim (R : RoundRule σ) (R' : RoundRule σ') (Rel : σ → σ' → Prop) : Prop where
  out : ∀ s s', Rel s s' → R'.out s' = R.out s
  tied : ∀ s s', Rel s s' → (R'.tied s').Perm (R.tied s)
  buy : ∀ s s' t, Rel s s' → t ∈ R.tied s → Rel (R.buy s t) (R'.buy s' t)

section Sim
variable {R : RoundRule σ} {R' : RoundRule σ'} {Rel : σ → σ' → Prop}
  {order : List Pid → Except Err (List Pid)}

theorem RoundRule.Sim.run (h : R.Sim R' Rel) (ho : IsTieOrder order) :
    ∀ n s s', Rel s s' → R'.run order n s' = R.run order n s :=
  RoundRule.run_sim h.out
    (fun s s' hr => ⟨ho.perm_eq _ _ (h.tied s s' hr), perm_eq_nil_iff (h.tied s s' hr)⟩)
    fun s s' t _ hr hot => h.buy s s' t hr (ho.mem _ _ hot t List.mem_cons_self)

theorem RoundRule.Sim.runAll (h : R.Sim R' Rel) (ho : IsTieOrder order) :
    ∀ n s s', Rel s s' → R'.runAll order n s' = R.runAll order n s :=
  RoundRule.runAll_sim h.out
    (fun s s' hr => ⟨ho.perm_eq _ _ (h.tied s s' hr), perm_eq_nil_iff (h.tied s s' hr)⟩)
    fun s s' _ hr hol t ht => h.buy s s' t hr (ho.mem _ _ hol t ht)

end Sim

def RoundRule.withTied (R : RoundRule σ) (enum : σ → List Pid) : RoundRule σ :=
  { R with tied := enum }

theorem RoundRule.sim_withTied (R : RoundRule σ) {enum : σ → List Pid}
    (henum : ∀ s, (enum s).Perm (R.tied s)) : R.Sim (R.withTied enum) Eq :=
  ⟨fun _ _ h => h ▸ rfl, fun s _ h => h ▸ henum s, fun _ _ _ h _ => h ▸ rfl⟩

/-! ### The same tied list -/

namespace Expand


/-- `A T t`: the purchases, of `t` when `T` is tied, that have to preserve `Rel` -/
structure InStep (R : RoundRule σ) (R' : RoundRule σ') (Rel : σ → σ' → Prop)
    (A : List Pid → Pid → Prop) : Prop where
  tied : ∀ s s', Rel s s' → R'.tied s' = R.tied s
  out : ∀ s s', Rel s s' → R'.out s' = R.out s
  buy : ∀ s s' t, Rel s s' → A (R.tied s) t → Rel (R.buy s t) (R'.buy s' t)

/-- `InStep` for two rules given by their components, as `MES.rule`, `Phragmen.rule` and
    `Greedy.rule` are.  With the rules opaque, `(rule ..).tied s = tied .. s` has to be found by
    unification, which unfolds `tied` before `rule` and is slow. -/
theorem InStep.of_parts {pool tied : σ → List Pid} {buy : σ → Pid → σ} {out : σ → List Pid}
    {pool' tied' : σ' → List Pid} {buy' : σ' → Pid → σ'} {out' : σ' → List Pid}
    {Rel : σ → σ' → Prop} {A : List Pid → Pid → Prop}
    (htied : ∀ s s', Rel s s' → tied' s' = tied s) (hout : ∀ s s', Rel s s' → out' s' = out s)
    (hbuy : ∀ s s' t, Rel s s' → A (tied s) t → Rel (buy s t) (buy' s' t)) :
    InStep ⟨pool, tied, buy, out⟩ ⟨pool', tied', buy', out'⟩ Rel A :=
  ⟨htied, hout, hbuy⟩

theorem InStep.of_map {pool tied : σ → List Pid} {buy : σ → Pid → σ} {out : σ → List Pid}
    {pool' tied' : σ' → List Pid} {buy' : σ' → Pid → σ'} {out' : σ' → List Pid} (f : σ → σ')
    (htied : ∀ s, tied' (f s) = tied s) (hout : ∀ s, out' (f s) = out s)
    (hbuy : ∀ s t, buy' (f s) t = f (buy s t)) :
    InStep ⟨pool, tied, buy, out⟩ ⟨pool', tied', buy', out'⟩ (fun s s' => s' = f s)
      (fun _ _ => True) :=
  ⟨fun s _ hs => hs ▸ htied s, fun s _ hs => hs ▸ hout s, fun s _ t hs _ => hs ▸ hbuy s t⟩

theorem InStep.run {R : RoundRule σ} {R' : RoundRule σ'} {Rel : σ → σ' → Prop}
    {A : List Pid → Pid → Prop} (h : InStep R R' Rel A)
    (order : List Pid → Except Err (List Pid)) (hord : ∀ T l, order T = .ok l → ∀ x ∈ l, A T x) :
    ∀ n s s', Rel s s' → R'.run order n s' = R.run order n s :=
  RoundRule.run_sim h.out (fun s s' hr => by rw [h.tied s s' hr]; exact ⟨rfl, Iff.rfl⟩)
    fun s s' t _ hr ho => h.buy s s' t hr (hord _ _ ho t List.mem_cons_self)

theorem InStep.runAll {R : RoundRule σ} {R' : RoundRule σ'} {Rel : σ → σ' → Prop}
    {A : List Pid → Pid → Prop} (h : InStep R R' Rel A)
    (order : List Pid → Except Err (List Pid)) (hord : ∀ T l, order T = .ok l → ∀ x ∈ l, A T x) :
    ∀ n s s', Rel s s' → R'.runAll order n s' = R.runAll order n s :=
  RoundRule.runAll_sim h.out (fun s s' hr => by rw [h.tied s s' hr]; exact ⟨rfl, Iff.rfl⟩)
    fun s s' _ hr ho t ht => h.buy s s' t hr (hord _ _ ho t ht)

theorem InStep.run_of_true {R : RoundRule σ} {R' : RoundRule σ'} {Rel : σ → σ' → Prop}
    (h : InStep R R' Rel fun _ _ => True)
    (order : List Pid → Except Err (List Pid)) (n : Nat) (s : σ) (s' : σ') (hr : Rel s s') :
    R'.run order n s' = R.run order n s ∧ R'.runAll order n s' = R.runAll order n s :=
  ⟨h.run order (fun _ _ _ _ _ => trivial) n s s' hr, h.runAll order (fun _ _ _ _ _ => trivial) n s s' hr⟩

theorem InStep.runP {R : RoundRule σ} {R' : RoundRule σ'} {Rel : σ → σ' → Prop}
    {A : List Pid → Pid → Prop} (h : InStep R R' Rel A)
    (ord : List Pid → List Pid) (hord : ∀ T, ∀ x ∈ ord T, A T x) :
    ∀ n s s', Rel s s' → R'.runP ord n s' = R.runP ord n s := by
  intro n
  induction n with
  | zero => intro s s' hr; exact h.out s s' hr
  | succ n ih =>
    intro s s' hr
    rw [RoundRule.runP, RoundRule.runP, h.tied s s' hr, h.out s s' hr]
    cases ho : ord (R.tied s) with
    | nil => rfl
    | cons t tl => exact ih _ _ (h.buy s s' t hr (hord _ t (ho ▸ List.mem_cons_self)))

theorem InStep.runAllP {R : RoundRule σ} {R' : RoundRule σ'} {Rel : σ → σ' → Prop}
    {A : List Pid → Pid → Prop} (h : InStep R R' Rel A)
    (hA : ∀ T, ∀ x ∈ T, A T x) :
    ∀ n s s', Rel s s' → R'.runAllP n s' = R.runAllP n s := by
  intro n
  induction n with
  | zero => intro s s' hr; exact congrArg (fun W => [W]) (h.out s s' hr)
  | succ n ih =>
    intro s s' hr
    rw [RoundRule.runAllP, RoundRule.runAllP, h.tied s s' hr, h.out s s' hr]
    exact if_congr Iff.rfl rfl
      (List.flatMap_congr fun t ht => ih _ _ (h.buy s s' t hr (hA _ t ht)))

end Expand
end Pabu
