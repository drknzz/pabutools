/-
  C09, termination of the iterated Method of Equal Shares (`MES.iterated` / `MES.iteratedAll`,
  Python: the `while True` loop of `method_of_equal_shares_scheme` with `voter_budget_increment`).

  Hypotheses:
  * `hm`   : every voter entry has multiplicity ≥ 1 (as in every pabutools profile);
  * `hord` : the tie-breaking order returns members of the tied set;
  * `hne`  : … and a non-empty list on a non-empty tied set (both true of every `Tie.order t`;
             this one cannot be dropped, see the FINDING at the end);
  * `0 < inc` (with `inc = 0` the loop can diverge: `C09.iterated_diverges`);
  * the inner runs return outcomes (true when the order never raises, i.e. `t ≠ refuse`).
  Nothing is assumed about costs, the instance budget, the initial budget `b0` or the initial allocation.

  * `runAt_generous_contains_pool`, `runAt_generous_exhaustive`: with a per-voter budget of at least the
    total cost of the buyable pool (`MES.initPool`), Equal Shares buys the whole pool; that outcome is
    exhaustive over the pool.
  * `iterated_terminates_explicit`: EXPLICIT BOUND — if `Σ_{p ∈ pool} cost p ≤ b0 + N·inc` then fuel `N+1`
    suffices (`N < fuel`).
  * `iterated_terminates`: with `0 < inc` such an `N` exists.
  * `iterated_terminates_tie`: for the shipped tie-breaking rules other than `refuse`, no hypothesis on runs.
  * `iterated_error_from_run`: whatever the order function does (also `refuse`), the loop never runs out
    of fuel on its own: an error with fuel `> N` is an error of an inner run at some try `≤ N`.
  * `iteratedAll_*`: the same for the irresolute variant (every branch buys the whole pool).
  * FINDING `iterated_terminates_needs_order_hyps`: for an arbitrary order function that merely never
    raises the statement is FALSE: an order function that returns the empty list makes every inner run
    stop early, and the loop never ends (`cx_diverges`).
-/
import PabuProofs.Properties.C09
import PabuProofs.Lemmas.IteratedTermination

namespace Pabu
namespace C09
open Wrap

section
variable {V : VCtx} {I : Inst} {init : List Pid} {order : List Pid → Except Err (List Pid)} {inc : Rat}

/-! ### At a generous budget the outcome contains the whole pool, hence is exhaustive over it -/

theorem runAt_generous_contains_pool
    (hm : ∀ i ∈ V.vs, 1 ≤ V.m i)
    (hord : ∀ T l, order T = .ok l → ∀ x ∈ l, x ∈ T)
    (hne : ∀ T, T ≠ [] → order T ≠ .ok [])
    {b : Rat} (hb : costOf I.cost (MES.initPool V I init) ≤ b) {W : List Pid}
    (hW : MES.runAt V I init order b = .ok W) : ∀ p ∈ MES.initPool V I init, p ∈ W :=
  MES.runAt_buys_pool hm hord hne hb hW

theorem runAt_generous_exhaustive
    (hm : ∀ i ∈ V.vs, 1 ≤ V.m i)
    (hord : ∀ T l, order T = .ok l → ∀ x ∈ l, x ∈ T)
    (hne : ∀ T, T ≠ [] → order T ≠ .ok [])
    {b : Rat} (hb : costOf I.cost (MES.initPool V I init) ≤ b) {W : List Pid}
    (hW : MES.runAt V I init order b = .ok W) :
    I.isExhaustiveOver (MES.initPool V I init) W = true :=
  MES.isExhaustiveOver_of_subset I (MES.runAt_buys_pool hm hord hne hb hW)

theorem runAllAt_generous_exhaustive
    (hm : ∀ i ∈ V.vs, 1 ≤ V.m i)
    (hord : ∀ T l, order T = .ok l → ∀ x ∈ l, x ∈ T)
    (hne : ∀ T, T ≠ [] → order T ≠ .ok [])
    {b : Rat} (hb : costOf I.cost (MES.initPool V I init) ≤ b) {Ws : List (List Pid)}
    (hWs : MES.runAllAt V I init order b = .ok Ws) :
    Ws ≠ [] ∧ ∀ W ∈ Ws, I.isExhaustiveOver (MES.initPool V I init) W = true := by
  obtain ⟨h1, h2⟩ := MES.runAllAt_buys_pool hm hord hne hb hWs
  exact ⟨h1, fun W hW => MES.isExhaustiveOver_of_subset I (h2 W hW)⟩

/-! ### Termination of the resolute loop -/

/-- Whatever the order function does (it may raise, as `refuse` does): with fuel `> N`, where
    `Σ cost ≤ b0 + N·inc`, an error of the loop is the error of an inner run at some try `k ≤ N`;
    the loop never runs out of fuel on its own. -/
theorem iterated_error_from_run {N fuel : Nat} {b0 : Rat} {prev₀ : List Pid} {e : Err}
    (hm : ∀ i ∈ V.vs, 1 ≤ V.m i)
    (hord : ∀ T l, order T = .ok l → ∀ x ∈ l, x ∈ T)
    (hne : ∀ T, T ≠ [] → order T ≠ .ok [])
    (hN : costOf I.cost (MES.initPool V I init) ≤ b0 + N * inc) (hf : N < fuel)
    (h : MES.iterated V I init order inc fuel b0 prev₀ = .error e) :
    ∃ k : Nat, k ≤ N ∧ MES.runAt V I init order (b0 + k * inc) = .error e := by
  rw [iterated_eq_loop] at h
  exact loop_error_of_stop N fuel b0 prev₀ e hf
    (fun W hW => Or.inr (runAt_generous_exhaustive hm hord hne hN hW)) h

/-- EXPLICIT BOUND.  If `N` increments lift the per-voter budget to the total cost of the buyable pool,
    `Σ_{p ∈ initPool} cost p ≤ b0 + N·inc`, and the inner runs at the budgets tried return outcomes, then
    fuel `N + 1` (any `fuel > N`) suffices: the loop returns an outcome. -/
theorem iterated_terminates_explicit {N fuel : Nat} {b0 : Rat} {prev₀ : List Pid}
    (hm : ∀ i ∈ V.vs, 1 ≤ V.m i)
    (hord : ∀ T l, order T = .ok l → ∀ x ∈ l, x ∈ T)
    (hne : ∀ T, T ≠ [] → order T ≠ .ok [])
    (hrun : ∀ j : Nat, j ≤ N → ∃ W, MES.runAt V I init order (b0 + j * inc) = .ok W)
    (hN : costOf I.cost (MES.initPool V I init) ≤ b0 + N * inc) (hf : N < fuel) :
    ∃ W, MES.iterated V I init order inc fuel b0 prev₀ = .ok W := by
  cases h : MES.iterated V I init order inc fuel b0 prev₀ with
  | ok W => exact ⟨W, rfl⟩
  | error e =>
    -- the loop does not fail on its own, and the runs it makes do not fail
    obtain ⟨k, hk, he⟩ := iterated_error_from_run hm hord hne hN hf h
    obtain ⟨W, hW⟩ := hrun k hk
    rw [hW] at he
    cases he

theorem iterated_terminates
    (hm : ∀ i ∈ V.vs, 1 ≤ V.m i)
    (hord : ∀ T l, order T = .ok l → ∀ x ∈ l, x ∈ T)
    (hne : ∀ T, T ≠ [] → order T ≠ .ok [])
    (hinc : 0 < inc) (hrun : ∀ b, ∃ W, MES.runAt V I init order b = .ok W)
    (b0 : Rat) (prev₀ : List Pid) :
    ∃ N : Nat, ∀ fuel, N < fuel → ∃ W, MES.iterated V I init order inc fuel b0 prev₀ = .ok W := by
  obtain ⟨N, hN⟩ := exists_steps_past_bound b0 (costOf I.cost (MES.initPool V I init)) inc hinc
  exact ⟨N, fun fuel hf =>
    iterated_terminates_explicit hm hord hne (fun j _ => hrun _) (le_of_lt hN) hf⟩

theorem iterated_terminates_total_order
    (hm : ∀ i ∈ V.vs, 1 ≤ V.m i)
    (hord : ∀ T l, order T = .ok l → ∀ x ∈ l, x ∈ T)
    (hne : ∀ T, T ≠ [] → order T ≠ .ok [])
    (htot : ∀ T, ∃ l, order T = .ok l)
    (hinc : 0 < inc) (b0 : Rat) (prev₀ : List Pid) :
    ∃ N : Nat, ∀ fuel, N < fuel → ∃ W, MES.iterated V I init order inc fuel b0 prev₀ = .ok W :=
  iterated_terminates hm hord hne hinc (MES.runAt_total htot) b0 prev₀

/-! ### The same for the irresolute loop -/

theorem iteratedAll_error_from_run {N fuel : Nat} {b0 : Rat} {prev₀ : List (List Pid)} {e : Err}
    (hm : ∀ i ∈ V.vs, 1 ≤ V.m i)
    (hord : ∀ T l, order T = .ok l → ∀ x ∈ l, x ∈ T)
    (hne : ∀ T, T ≠ [] → order T ≠ .ok [])
    (hN : costOf I.cost (MES.initPool V I init) ≤ b0 + N * inc) (hf : N < fuel)
    (h : MES.iteratedAll V I init order inc fuel b0 prev₀ = .error e) :
    ∃ k : Nat, k ≤ N ∧ MES.runAllAt V I init order (b0 + k * inc) = .error e := by
  rw [iteratedAll_eq_loop] at h
  refine loop_error_of_stop N fuel b0 prev₀ e hf (fun Ws hWs => Or.inr ?_) h
  obtain ⟨hnil, hall⟩ := runAllAt_generous_exhaustive hm hord hne hN hWs
  obtain ⟨W, hW⟩ := List.exists_mem_of_ne_nil _ hnil
  exact List.any_eq_true.mpr ⟨W, hW, hall W hW⟩

theorem iteratedAll_terminates_explicit {N fuel : Nat} {b0 : Rat} {prev₀ : List (List Pid)}
    (hm : ∀ i ∈ V.vs, 1 ≤ V.m i)
    (hord : ∀ T l, order T = .ok l → ∀ x ∈ l, x ∈ T)
    (hne : ∀ T, T ≠ [] → order T ≠ .ok [])
    (hrun : ∀ j : Nat, j ≤ N → ∃ Ws, MES.runAllAt V I init order (b0 + j * inc) = .ok Ws)
    (hN : costOf I.cost (MES.initPool V I init) ≤ b0 + N * inc) (hf : N < fuel) :
    ∃ Ws, MES.iteratedAll V I init order inc fuel b0 prev₀ = .ok Ws := by
  cases h : MES.iteratedAll V I init order inc fuel b0 prev₀ with
  | ok Ws => exact ⟨Ws, rfl⟩
  | error e =>
    obtain ⟨k, hk, he⟩ := iteratedAll_error_from_run hm hord hne hN hf h
    obtain ⟨Ws, hWs⟩ := hrun k hk
    rw [hWs] at he
    cases he

theorem iteratedAll_terminates
    (hm : ∀ i ∈ V.vs, 1 ≤ V.m i)
    (hord : ∀ T l, order T = .ok l → ∀ x ∈ l, x ∈ T)
    (hne : ∀ T, T ≠ [] → order T ≠ .ok [])
    (hinc : 0 < inc) (hrun : ∀ b, ∃ Ws, MES.runAllAt V I init order b = .ok Ws)
    (b0 : Rat) (prev₀ : List (List Pid)) :
    ∃ N : Nat, ∀ fuel, N < fuel → ∃ Ws, MES.iteratedAll V I init order inc fuel b0 prev₀ = .ok Ws := by
  obtain ⟨N, hN⟩ := exists_steps_past_bound b0 (costOf I.cost (MES.initPool V I init)) inc hinc
  exact ⟨N, fun fuel hf =>
    iteratedAll_terminates_explicit hm hord hne (fun j _ => hrun _) (le_of_lt hN) hf⟩

theorem iteratedAll_terminates_total_order
    (hm : ∀ i ∈ V.vs, 1 ≤ V.m i)
    (hord : ∀ T l, order T = .ok l → ∀ x ∈ l, x ∈ T)
    (hne : ∀ T, T ≠ [] → order T ≠ .ok [])
    (htot : ∀ T, ∃ l, order T = .ok l)
    (hinc : 0 < inc) (b0 : Rat) (prev₀ : List (List Pid)) :
    ∃ N : Nat, ∀ fuel, N < fuel → ∃ Ws, MES.iteratedAll V I init order inc fuel b0 prev₀ = .ok Ws :=
  iteratedAll_terminates hm hord hne hinc (MES.runAllAt_total htot) b0 prev₀

end

/-! ### The shipped tie-breaking rules -/

/-- for every shipped tie-breaking rule other than `refuse` (lexicographic, approval score, min/max cost,
    an explicit strict order) the iterated rule terminates — the only hypotheses left are multiplicities
    ≥ 1 and a positive increment -/
theorem iterated_terminates_tie {V : VCtx} {I : Inst} {init : List Pid} {t : Tie} (ht : t ≠ .refuse)
    (cost : Pid → Rat) (score : Pid → Nat) {inc : Rat}
    (hm : ∀ i ∈ V.vs, 1 ≤ V.m i) (hinc : 0 < inc) (b0 : Rat) (prev₀ : List Pid) :
    ∃ N : Nat, ∀ fuel, N < fuel →
      ∃ W, MES.iterated V I init (t.order cost score) inc fuel b0 prev₀ = .ok W :=
  iterated_terminates_total_order hm (Tie.order_mem t cost score) (Tie.order_ne_nil t cost score)
    (fun T => ⟨_, Tie.order_ok ht cost score T⟩) hinc b0 prev₀

theorem iteratedAll_terminates_tie {V : VCtx} {I : Inst} {init : List Pid} {t : Tie} (ht : t ≠ .refuse)
    (cost : Pid → Rat) (score : Pid → Nat) {inc : Rat}
    (hm : ∀ i ∈ V.vs, 1 ≤ V.m i) (hinc : 0 < inc) (b0 : Rat) (prev₀ : List (List Pid)) :
    ∃ N : Nat, ∀ fuel, N < fuel →
      ∃ Ws, MES.iteratedAll V I init (t.order cost score) inc fuel b0 prev₀ = .ok Ws :=
  iteratedAll_terminates_total_order hm (Tie.order_mem t cost score) (Tie.order_ne_nil t cost score)
    (fun T => ⟨_, Tie.order_ok ht cost score T⟩) hinc b0 prev₀

theorem iterated_terminates_tie_explicit {V : VCtx} {I : Inst} {init : List Pid} {t : Tie}
    (ht : t ≠ .refuse) (cost : Pid → Rat) (score : Pid → Nat) {inc b0 : Rat} {N fuel : Nat}
    (hm : ∀ i ∈ V.vs, 1 ≤ V.m i)
    (hN : costOf I.cost (MES.initPool V I init) ≤ b0 + N * inc) (hf : N < fuel) (prev₀ : List Pid) :
    ∃ W, MES.iterated V I init (t.order cost score) inc fuel b0 prev₀ = .ok W :=
  iterated_terminates_explicit hm (Tie.order_mem t cost score) (Tie.order_ne_nil t cost score)
    (fun _ _ => MES.runAt_total (fun T => ⟨_, Tie.order_ok ht cost score T⟩) _) hN hf

/-! ### Non-vacuity: an election where exactly two tries are needed -/

/-- voter 0 (one copy) approves {1,2}; voter 1 (two copies) approves {2,3} -/
def tmV : VCtx :=
  ⟨[0, 1], fun i => i + 1, fun i p => if (i = 0 ∧ (p = 1 ∨ p = 2)) ∨ (i = 1 ∧ (p = 2 ∨ p = 3)) then 1 else 0⟩
/-- costs 1, 2, 3; budget 6 -/
def tmI : Inst := ⟨[1, 2, 3], fun p => (p : Rat), 6⟩

theorem tmV_mult : ∀ i ∈ tmV.vs, 1 ≤ tmV.m i :=
  fun i _ => Nat.le_add_left 1 i

theorem idOrder_mem : ∀ T l, idOrder T = .ok l → ∀ x ∈ l, x ∈ T := by
  intro T l h x hx
  cases h
  exact hx

theorem idOrder_ne_nil : ∀ T, T ≠ [] → idOrder T ≠ .ok [] :=
  fun _ hT h => hT (Except.ok.inj h)

/-- the pool is everything, of total cost 6 = 1 + 1·5: the theorem promises that fuel 2 suffices … -/
example : ∃ W, MES.iterated tmV tmI [] idOrder 5 2 1 [] = .ok W :=
  iterated_terminates_explicit (N := 1) tmV_mult idOrder_mem idOrder_ne_nil
    (fun _ _ => MES.runAt_total (fun T => ⟨T, rfl⟩) _) (by decide +kernel) (by omega)

/-- … and it does: the first try (budget 1 per voter) buys only project 2, which is feasible but not
    exhaustive, the second (budget 6) buys everything … -/
example : MES.runAt tmV tmI [] idOrder 1 = .ok [2] := by decide +kernel
example : tmI.isFeasible [2] = true ∧ tmI.isExhaustiveOver (MES.initPool tmV tmI []) [2] = false := by
  decide +kernel
example : MES.iterated tmV tmI [] idOrder 5 2 1 [] = .ok [2, 1, 3] := by decide +kernel
/-- … while one try is not enough: the bound `N + 1 = 2` is attained -/
example : MES.iterated tmV tmI [] idOrder 5 1 1 [] = .error .fuel := by decide +kernel

example : ∀ p ∈ MES.initPool tmV tmI [], p ∈ [2, 1, 3] :=
  runAt_generous_contains_pool (order := idOrder) (b := 6) tmV_mult idOrder_mem idOrder_ne_nil
    (by decide +kernel) (by decide +kernel)

/-- the same election under the lexicographic rule, irresolute: one outcome, found at the second try -/
example : ∃ Ws, MES.iteratedAll tmV tmI [] (Tie.order .lexico tmI.cost (fun _ => 0)) 5 2 1 [[]] = .ok Ws :=
  iteratedAll_terminates_explicit (N := 1) tmV_mult (Tie.order_mem _ _ _) (Tie.order_ne_nil _ _ _)
    (fun _ _ => MES.runAllAt_total (fun T => ⟨_, Tie.order_ok (by decide) _ _ T⟩) _)
    (by decide +kernel) (by omega)

example : MES.iteratedAll tmV tmI [] (Tie.order .lexico tmI.cost (fun _ => 0)) 5 2 1 [[]] = .ok [[1, 2, 3]] := by
  decide +kernel

/-- with the increment 1 of the running example of `C09.lean` (pool cost 7, `b0 = 1`): fuel 7 is promised;
    the loop actually stops at the third try -/
example : ∃ W, MES.iterated itV itI [] idOrder 1 7 1 [] = .ok W :=
  iterated_terminates_explicit (N := 6) (fun i _ => le_refl (1 : Nat)) idOrder_mem idOrder_ne_nil
    (fun _ _ => MES.runAt_total (fun T => ⟨T, rfl⟩) _) (by decide +kernel) (by omega)

/-! ### FINDING: the hypotheses on the order function are needed -/

/-- one voter approving projects 1 and 2 -/
def cxV : VCtx := ⟨[0], fun _ => 1, fun _ p => if p = 1 ∨ p = 2 then 1 else 0⟩
/-- both cost 1; budget 5 -/
def cxI : Inst := ⟨[1, 2], fun _ => 1, 5⟩
/-- an order function that never raises but returns nothing -/
def nilOrder : List Pid → Except Err (List Pid) := fun _ => .ok []

theorem cx_pool : MES.initPool cxV cxI [] = [1, 2] := by decide +kernel
theorem cx_zero : MES.zeroCost cxV cxI [] = [] := by decide +kernel

/-- the two projects are indistinguishable -/
theorem cx_rho (b : Nat → Rat) : MES.rho cxV cxI.cost b 1 = MES.rho cxV cxI.cost b 2 := by
  unfold MES.rho MES.sups MES.supporters
  simp [cxV, cxI]

/-- so at every budget either none or both are tied -/
theorem cx_tied (b : Rat) :
    MES.tied cxV cxI.cost (MES.initState cxV cxI [] b) = [] ∨
    MES.tied cxV cxI.cost (MES.initState cxV cxI [] b) = [1, 2] := by
  unfold MES.tied MES.best MES.affordable MES.initState
  simp only [cx_pool, List.filterMap_cons, List.filterMap_nil]
  rw [← cx_rho]
  cases MES.rho cxV cxI.cost (fun _ => b) 1 with
  | none => left; simp [minRat]
  | some r => right; simp [minRat]

theorem cx_run (b : Rat) : MES.runAt cxV cxI [] nilOrder b = .ok [] := by
  unfold MES.runAt
  rw [cx_pool]
  show (MES.rule cxV cxI.cost).run (MES.orderIfTie nilOrder) 2 (MES.initState cxV cxI [] b) = .ok []
  rw [RoundRule.run]
  have hout : (MES.rule cxV cxI.cost).out (MES.initState cxV cxI [] b) = [] := by
    show ([] : List Pid) ++ MES.zeroCost cxV cxI [] = []
    rw [cx_zero]; rfl
  have htied : (MES.rule cxV cxI.cost).tied (MES.initState cxV cxI [] b) =
      MES.tied cxV cxI.cost (MES.initState cxV cxI [] b) := rfl
  rw [htied, hout]
  rcases cx_tied b with h | h
  · rw [h]; rfl
  · rw [h]; rfl

theorem cx_diverges (fuel : Nat) : MES.iterated cxV cxI [] nilOrder 1 fuel 0 [] = .error .fuel :=
  iterated_diverges (V := cxV) (I := cxI) (init := []) (order := nilOrder) (inc := 1) (b0 := 0)
    (fun k => ⟨[], cx_run _, by decide +kernel, by decide +kernel⟩) fuel []

/-- FINDING.  The termination statement for an arbitrary order function, assumed only never to make the
    inner run fail, is FALSE.
    The hypothesis `hne` of `iterated_terminates` cannot be dropped.  (The shipped tie-breaking
    rules satisfy it, so this is a fact about the model's generality, not a defect of the library.) -/
theorem iterated_terminates_needs_order_hyps :
    ¬ (∀ (V : VCtx) (I : Inst) (init : List Pid) (order : List Pid → Except Err (List Pid)) (inc b0 : Rat)
        (prev₀ : List Pid), 0 < inc → (∀ b, ∃ W, MES.runAt V I init order b = .ok W) →
        ∃ N : Nat, ∀ fuel, N < fuel → ∃ W, MES.iterated V I init order inc fuel b0 prev₀ = .ok W) := by
  intro h
  obtain ⟨N, hN⟩ := h cxV cxI [] nilOrder 1 0 [] (by norm_num) (fun b => ⟨[], cx_run b⟩)
  obtain ⟨W, hW⟩ := hN (N + 1) (by omega)
  rw [cx_diverges] at hW
  cases hW

/-- the counterexample violates exactly `hne` -/
example : ¬ (∀ T, T ≠ [] → nilOrder T ≠ .ok []) := fun h => h [1] (by simp) rfl

end C09
end Pabu
