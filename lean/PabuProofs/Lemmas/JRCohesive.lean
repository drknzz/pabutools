/-
  Lemmas about the enumeration of cohesive groups (`JR.cohesiveGroups`, `JR.cohesiveGroupsBy`).
-/
import PabuProofs.Lemmas.JR
namespace Pabu.JR

theorem mem_flatMap_filter_pair {α β : Type} (Ds : List α) (Ts : List β) (q : α → β → Bool) (D : α) (T : β) :
    (D, T) ∈ Ds.flatMap (fun D => (Ts.filter (q D)).map (fun T => (D, T))) ↔ D ∈ Ds ∧ T ∈ Ts ∧ q D T = true := by
  simp only [List.mem_flatMap, List.mem_map, List.mem_filter, Prod.mk.injEq]
  constructor
  · rintro ⟨D', hD', T', ⟨hT', hq⟩, rfl, rfl⟩
    exact ⟨hD', hT', hq⟩
  · rintro ⟨hD, hT, hq⟩
    exact ⟨D, hD, T, ⟨hT, hq⟩, rfl, rfl⟩

theorem forGroups_eq_all_cohesiveGroups (E : Setting) (M : List (Voter × Nat)) (card : Bool)
    (g : List Voter → List Pid → Bool) :
    forGroups M E.projects (adm E card .ejr) g = (cohesiveGroups E M card).all (fun x => g (members x.1) x.2) := by
  unfold forGroups cohesiveGroups
  rw [List.all_flatMap]
  refine List.all_congr rfl fun D => ?_
  rw [List.all_map, List.all_filter]
  refine List.all_congr rfl fun T => ?_
  cases adm E card .ejr (groupSize D) (members D) T <;> rfl

end Pabu.JR
