/-
  C14 (cohesive groups) — `cohesive_groups(instance, profile)` of pabutools/analysis/cohesiveness.py enumerates exactly the
  (group, project set) pairs that pass the cohesiveness test, and the EJR-type checkers are a single loop over it.
-/
import PabuProofs.Lemmas.JRCohesive
namespace Pabu.JR
open List

/-- the enumeration lists exactly the pairs that pass `is_cohesive_approval` / `is_cohesive_cardinal` (large enough
    with the summed multiplicities, both non-empty, unanimous for approval ballots) -/
theorem cohesiveGroups_spec (E : Setting) (M : List (Voter × Nat)) (card : Bool) (D : List (Voter × Nat)) (T : List Pid) :
    (D, T) ∈ cohesiveGroups E M card ↔
      D <+ M ∧ T <+ E.projects ∧ adm E card .ejr (groupSize D) (members D) T = true := by
  rw [cohesiveGroups, mem_flatMap_filter_pair, mem_sublists, mem_sublists]

/-- tagged entries: what the driver command `cohesive` prints -/
theorem cohesiveGroupsBy_spec {α : Type} (E : Setting) (card : Bool) (vo : α → Voter × Nat) (M : List α)
    (D : List α) (T : List Pid) :
    (D, T) ∈ cohesiveGroupsBy E card vo M ↔
      D <+ M ∧ T <+ E.projects ∧ adm E card .ejr (groupSize (D.map vo)) (members (D.map vo)) T = true := by
  rw [cohesiveGroupsBy, mem_flatMap_filter_pair, mem_sublists, mem_sublists]

theorem cohesiveGroupsBy_forget {α : Type} (E : Setting) (card : Bool) (vo : α → Voter × Nat) (M : List α) :
    (cohesiveGroupsBy E card vo M).map (fun x => (x.1.map vo, x.2)) = cohesiveGroups E (M.map vo) card := by
  unfold cohesiveGroupsBy cohesiveGroups
  rw [sublists_map, List.map_flatMap, List.flatMap_map]
  congr 1
  funext D
  rw [List.map_map]
  rfl

/-- for a list profile (every multiplicity 1) the test is the textbook predicate -/
theorem cohesiveGroups_spec_list (E : Setting) (M : List (Voter × Nat)) (card : Bool) (h1 : ∀ e ∈ M, e.2 = 1)
    (D : List (Voter × Nat)) (T : List Pid) :
    (D, T) ∈ cohesiveGroups E M card ↔ D <+ M ∧ T <+ E.projects ∧ AdmP E card .ejr (members D) T := by
  rw [cohesiveGroups_spec]
  refine and_congr_right fun hD => and_congr_right fun _ => ?_
  rw [← length_expand, expand_eq_members D fun e he => h1 e (hD.subset he), adm_iff]

/-- the strong-EJR / EJR / PJR checkers (all `up_to_func` variants, approval and cardinal) are one loop over the
    enumeration -/
theorem checker_eq_all_cohesiveGroups (E : Setting) (M : List (Voter × Nat)) (card : Bool) (k : Kind) (hk : k ≠ .core)
    (up : UpTo) (W : List Pid) :
    checker E M card k up W = (cohesiveGroups E M card).all (fun x => good E card k up W (members x.1) x.2) := by
  unfold checker
  rw [adm_noncore E card hk]
  exact forGroups_eq_all_cohesiveGroups E M card _

/-! ### a concrete election: budget 4, projects 0 (cost 2) and 1 (cost 3); ballots {0}, {0,1}, and {1} twice -/

def exCoh : Setting := { n := 4, budget := 4, cost := fun c => if c = 0 then 2 else 3, projects := [0, 1], full := fun _ => 1 }

def exV (l : List Pid) : Voter := { app := fun p => l.contains p, u := fun p => if l.contains p then 1 else 0 }

def exCohM : List (Nat × (Voter × Nat)) := [(0, (exV [0], 1)), (1, (exV [0, 1], 1)), (2, (exV [1], 2))]

/-- exactly two cohesive pairs: entries {1, 2} (three voters) for project 1, entries {0, 1} for project 0 -/
theorem exCoh_groups :
    (cohesiveGroupsBy exCoh false (fun x => x.2) exCohM).map (fun x => (x.1.map (fun y => y.1), x.2)) =
      [([1, 2], [1]), ([0, 1], [0])] := by
  decide +kernel

example : ([(exV [0], 1), (exV [0, 1], 1)], [0]) ∈ cohesiveGroups exCoh (exCohM.map (fun x => x.2)) false :=
  (cohesiveGroups_spec _ _ _ _ _).mpr
    ⟨((Sublist.slnil.cons _).cons_cons _).cons_cons _, (Sublist.slnil.cons _).cons_cons _, by decide +kernel⟩

end Pabu.JR
