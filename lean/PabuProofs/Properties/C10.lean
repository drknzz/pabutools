/-
  C10 — satisfaction measures compute their documented formulas exactly.
  `sat`/`satProject` of `PabuModel.Sat`: additivity, the empty collection, independence of the order of the
  collection, the closed form of every measure's per-project value, optimality of the normalisers.
-/
import PabuModel.Sat
import PabuProofs.Lemmas.Election
import Mathlib.Tactic.NormNum
namespace Pabu.C10
open Election

/-! ### additivity, empty set, order independence -/

/-- additive measures are exactly the sum of their per-project values -/
theorem sat_additive (μ : Measure) (h : μ.isAdditive = true) (I : Inst) (P : Profile) (b : Ballot) (l : List Pid) :
    sat μ I P b l = sumOver l (satProject μ I P b) := by
  cases μ <;> first | rfl | (simp [Measure.isAdditive] at h)

theorem sat_nil (μ : Measure) (I : Inst) (P : Profile) (b : Ballot) : sat μ I P b [] = 0 := by
  cases μ <;> try rfl
  cases b <;> simp [sat, ccCard]

/-- one step of the Chamberlin–Courant loop on cardinal ballots -/
def ccStep (b : Ballot) (r : Rat) (p : Pid) : Rat := if b.mem p ∧ b.score p > r then b.score p else r

theorem ccCard_cons (b : Ballot) (r : Rat) (p : Pid) (ps : List Pid) :
    ccCard b r (p :: ps) = ccCard b (ccStep b r p) ps := by
  rw [ccCard, ccStep]
  by_cases h : b.mem p = true ∧ b.score p > r
  · rw [if_pos h, if_pos h]
  · rw [if_neg h, if_neg h]

theorem ccStep_eq (b : Ballot) (r : Rat) (p : Pid) :
    ccStep b r p = if b.mem p = true then max r (b.score p) else r := by
  unfold ccStep
  by_cases hm : b.mem p = true
  · by_cases h : b.score p > r
    · rw [if_pos ⟨hm, h⟩, if_pos hm, max_eq_right h.le]
    · rw [if_neg fun hc => h hc.2, if_pos hm, max_eq_left (not_lt.mp h)]
  · rw [if_neg fun hc => hm hc.1, if_neg hm]

theorem ccStep_comm (b : Ballot) (r : Rat) (p q : Pid) : ccStep b (ccStep b r p) q = ccStep b (ccStep b r q) p := by
  simp only [ccStep_eq]
  split_ifs
  exacts [max_right_comm _ _ _, rfl, rfl, rfl]

theorem ccCard_eq_foldl (b : Ballot) : ∀ (l : List Pid) (r : Rat), ccCard b r l = l.foldl (ccStep b) r
  | [], _ => rfl
  | p :: ps, r => by rw [ccCard_cons, List.foldl_cons, ccCard_eq_foldl b ps]

theorem ccCard_perm (b : Ballot) {l₁ l₂ : List Pid} (h : l₁.Perm l₂) (r : Rat) : ccCard b r l₁ = ccCard b r l₂ := by
  have : RightCommutative (ccStep b) := ⟨ccStep_comm b⟩
  rw [ccCard_eq_foldl, ccCard_eq_foldl, h.foldl_eq]

theorem ccCard_spec (b : Ballot) (r : Rat) (l : List Pid) :
    r ≤ ccCard b r l ∧ (∀ p ∈ l, b.mem p = true → b.score p ≤ ccCard b r l) ∧
    (ccCard b r l = r ∨ ∃ p ∈ l, b.mem p = true ∧ ccCard b r l = b.score p) := by
  induction l generalizing r with
  | nil => exact ⟨le_refl _, by simp, Or.inl rfl⟩
  | cons x xs ih =>
    rw [ccCard_cons]
    obtain ⟨h1, h2, h3⟩ := ih (ccStep b r x)
    have hstep : r ≤ ccStep b r x ∧ (b.mem x = true → b.score x ≤ ccStep b r x) ∧
        (ccStep b r x = r ∨ (b.mem x = true ∧ ccStep b r x = b.score x)) := by
      rw [ccStep_eq]
      by_cases hm : b.mem x = true
      · rw [if_pos hm]
        exact ⟨le_max_left _ _, fun _ => le_max_right _ _, (max_choice r (b.score x)).imp_right fun h => ⟨hm, h⟩⟩
      · rw [if_neg hm]
        exact ⟨le_refl _, fun h => absurd h hm, Or.inl rfl⟩
    refine ⟨le_trans hstep.1 h1, ?_, ?_⟩
    · intro p hp hm
      rcases List.mem_cons.1 hp with rfl | hp
      · exact le_trans (hstep.2.1 hm) h1
      · exact h2 p hp hm
    · rcases h3 with h3 | ⟨p, hp, hm, h3⟩
      · rcases hstep.2.2 with h4 | ⟨hm, h4⟩
        · exact Or.inl (h3.trans h4)
        · exact Or.inr ⟨x, List.mem_cons_self .., hm, h3.trans h4⟩
      · exact Or.inr ⟨p, List.mem_cons_of_mem _ hp, hm, h3⟩

/-- every measure depends on the collection of projects only up to its order -/
theorem sat_perm (μ : Measure) (I : Inst) (P : Profile) (b : Ballot) {l₁ l₂ : List Pid} (h : l₁.Perm l₂) :
    sat μ I P b l₁ = sat μ I P b l₂ := by
  by_cases ha : μ.isAdditive = true
  · rw [sat_additive μ ha, sat_additive μ ha]
    exact sumOver_perm h _
  · cases μ <;> simp [Measure.isAdditive] at ha
    cases b with
    | card c => exact ccCard_perm _ h 0
    | app a => simp only [sat, h.any_eq]
    | ord a => simp only [sat, h.any_eq]

/-- "depends only on the set of projects": two duplicate-free collections with the same members -/
theorem sat_set_ext (μ : Measure) (I : Inst) (P : Profile) (b : Ballot) {l₁ l₂ : List Pid}
    (h₁ : l₁.Nodup) (h₂ : l₂.Nodup) (h : ∀ p, p ∈ l₁ ↔ p ∈ l₂) : sat μ I P b l₁ = sat μ I P b l₂ :=
  sat_perm μ I P b ((List.perm_ext_iff_of_nodup h₁ h₂).2 h)

/-! ### documented closed forms of the per-project values -/

theorem ballot_mem_iff (b : Ballot) (p : Pid) : b.mem p = true ↔ p ∈ b.projects := by
  unfold Ballot.mem
  exact List.contains_iff_mem

theorem satProject_cardinality (I : Inst) (P : Profile) (b : Ballot) (p : Pid) :
    satProject .cardinality I P b p = if b.mem p then 1 else 0 := rfl

theorem satProject_cost (I : Inst) (P : Profile) (b : Ballot) (p : Pid) :
    satProject .cost I P b p = if b.mem p then I.cost p else 0 := by
  simp only [satProject, memI, ite_mul, one_mul, zero_mul]

theorem guarded_form {c : Prop} [Decidable c] (m : Bool) {v w : Rat} (h : v = (if m = true then 1 else 0) * w) :
    (if c then 0 else v) = if m = true ∧ ¬ c then w else 0 := by
  subst h
  by_cases hc : c
  · rw [if_pos hc, if_neg fun h => h.2 hc]
  · cases m
    · rw [if_neg hc, if_neg Bool.false_ne_true, zero_mul, if_neg fun h => Bool.false_ne_true (And.left h)]
    · rw [if_neg hc, if_pos rfl, one_mul, if_pos ⟨rfl, hc⟩]

/-- relative cardinality: 1 / (largest number of ballot projects that fit) for ballot projects -/
theorem satProject_relCardinality (I : Inst) (P : Profile) (b : Ballot) (p : Pid) :
    satProject .relCardinality I P b p =
      if b.mem p = true ∧ maxCardinality I.cost b.projects I.budget ≠ 0
      then 1 / ((maxCardinality I.cost b.projects I.budget : Nat) : Rat) else 0 := by
  refine (guarded_form (b.mem p) (mul_one_div _ _).symm).trans ?_
  simp only [normaliser, ne_eq, Nat.cast_eq_zero]

/-- relative cost: cost / (largest cost of a feasible set of ballot projects) for ballot projects -/
theorem satProject_relCost (I : Inst) (P : Profile) (b : Ballot) (p : Pid) :
    satProject .relCost I P b p =
      if b.mem p = true ∧ maxCostSpec I.cost b.projects I.budget ≠ 0
      then I.cost p / maxCostSpec I.cost b.projects I.budget else 0 :=
  guarded_form (b.mem p) (mul_div_assoc _ _ _)

/-- the approximate normaliser is min(total cost of the ballot, budget) -/
theorem normaliser_relCostApprox (I : Inst) (b : Ballot) :
    normaliser .relCostApprox I b = min (costOf I.cost b.projects) I.budget := by
  simp only [normaliser]
  by_cases h : costOf I.cost b.projects ≤ I.budget
  · rw [if_pos h, min_eq_left h]
  · rw [if_neg h, min_eq_right (le_of_lt (not_le.1 h))]

theorem satProject_relCostApprox (I : Inst) (P : Profile) (b : Ballot) (p : Pid) :
    satProject .relCostApprox I P b p =
      if b.mem p = true ∧ min (costOf I.cost b.projects) I.budget ≠ 0
      then I.cost p / min (costOf I.cost b.projects) I.budget else 0 := by
  rw [← normaliser_relCostApprox]
  exact guarded_form (b.mem p) (mul_div_assoc _ _ _)

/-- effort: cost shared among the voters (with multiplicity) whose ballot contains the project -/
theorem satProject_effort (I : Inst) (P : Profile) (b : Ballot) (p : Pid) :
    satProject .effort I P b p =
      if b.mem p = true ∧ P.approvalScore p ≠ 0 then I.cost p / ((P.approvalScore p : Nat) : Rat) else 0 :=
  guarded_form (b.mem p) rfl

theorem satProject_addCardinal (I : Inst) (P : Profile) (b : Ballot) (p : Pid) :
    satProject .addCardinal I P b p = b.score p := rfl

theorem satProject_addCardinalRel (I : Inst) (P : Profile) (b : Ballot) (p : Pid) :
    satProject .addCardinalRel I P b p =
      if maxScoreSpec I.cost b.score I.projects I.budget = 0 then 0
      else b.score p / maxScoreSpec I.cost b.score I.projects I.budget := rfl

/-- Borda: number of ballot projects ranked below `p` -/
theorem satProject_borda (I : Inst) (P : Profile) (l : List Pid) (p : Pid) :
    satProject .borda I P (.ord l) p = if p ∈ l then ((l.length - indexOf l p - 1 : Nat) : Rat) else 0 := by
  simp only [satProject, bordaScore]
  by_cases h : p ∈ l
  · rw [if_pos h, if_pos (List.contains_iff_mem.2 h)]
  · rw [if_neg h, if_neg (fun hc => h (List.contains_iff_mem.1 hc))]

/-- Chamberlin–Courant on approval ballots: 1 iff some listed project is approved -/
theorem sat_cc_app (I : Inst) (P : Profile) (a l : List Pid) :
    sat .cc I P (.app a) l = if ∃ p ∈ l, p ∈ a then 1 else 0 := by
  simp only [sat]
  by_cases h : ∃ p ∈ l, p ∈ a
  · rw [if_pos h, if_pos]
    obtain ⟨p, hp, hpa⟩ := h
    exact List.any_eq_true.2 ⟨p, hp, (ballot_mem_iff _ _).2 hpa⟩
  · rw [if_neg h, if_neg]
    intro hc
    obtain ⟨p, hp, hm⟩ := List.any_eq_true.1 hc
    exact h ⟨p, hp, (ballot_mem_iff (.app a) p).1 hm⟩

/-- Chamberlin–Courant on cardinal ballots: the largest score of a listed ballot project, at least 0 -/
theorem sat_cc_card (I : Inst) (P : Profile) (c : List (Pid × Rat)) (l : List Pid) :
    0 ≤ sat .cc I P (.card c) l ∧
    (∀ p ∈ l, (Ballot.card c).mem p = true → (Ballot.card c).score p ≤ sat .cc I P (.card c) l) ∧
    (sat .cc I P (.card c) l = 0 ∨
      ∃ p ∈ l, (Ballot.card c).mem p = true ∧ sat .cc I P (.card c) l = (Ballot.card c).score p) :=
  ccCard_spec (.card c) 0 l

/-! ### the normalisers are the true optima over feasible sub-lists of the ballot -/

theorem normaliser_relCardinality_optimal (I : Inst) (b : Ballot) (hnn : ∀ p ∈ b.projects, 0 ≤ I.cost p)
    (hb : 0 ≤ I.budget) :
    (∃ s : List Pid, s.Sublist b.projects ∧ costOf I.cost s ≤ I.budget ∧
        normaliser .relCardinality I b = (s.length : Rat)) ∧
    (∀ s : List Pid, s.Sublist b.projects → costOf I.cost s ≤ I.budget →
        (s.length : Rat) ≤ normaliser .relCardinality I b) := by
  simp only [normaliser]
  constructor
  · obtain ⟨s, h1, h2, h3⟩ := maxCardinality_attained I.cost b.projects I.budget hb
    exact ⟨s, h1, h2, by rw [h3]⟩
  · intro s h1 h2
    exact Nat.cast_le.2 (maxCardinality_upper I.cost b.projects I.budget hnn s h1 h2)

theorem normaliser_relCost_optimal (I : Inst) (b : Ballot) (hb : 0 ≤ I.budget) :
    (∃ s : List Pid, s.Sublist b.projects ∧ costOf I.cost s ≤ I.budget ∧ normaliser .relCost I b = costOf I.cost s) ∧
    (∀ s : List Pid, s.Sublist b.projects → costOf I.cost s ≤ I.budget → costOf I.cost s ≤ normaliser .relCost I b) :=
  maxCostSpec_isMax I.cost b.projects I.budget hb

theorem normaliser_addCardinalRel_optimal (I : Inst) (b : Ballot) (hb : 0 ≤ I.budget) :
    (∃ s : List Pid, s.Sublist I.projects ∧ costOf I.cost s ≤ I.budget ∧
        normaliser .addCardinalRel I b = sumOver s b.score) ∧
    (∀ s : List Pid, s.Sublist I.projects → costOf I.cost s ≤ I.budget →
        sumOver s b.score ≤ normaliser .addCardinalRel I b) :=
  maxScoreSpec_isMax I.cost b.score I.projects I.budget hb

/-! ### concrete inputs -/

/-- projects 0, 1, 2 cost 1/3, 1/3, 1; budget 2/3 -/
def exI : Inst := { projects := [0, 1, 2], cost := fun p => if p = 2 then 1 else 1 / 3, budget := 2 / 3 }
def exApp : Ballot := .app [0, 1, 2]
def exCard : Ballot := .card [(0, 3), (2, 1 / 2), (1, 0)]
def exP : Profile := [(exApp, 2), (.app [2], 1)]

example : Measure.isAdditive .relCost = true := rfl
example : [2, 0, 1].Perm [0, 1, 2] := by decide
example : (0 : Rat) ≤ exI.budget := by norm_num [exI]
example : ∀ p ∈ exApp.projects, 0 ≤ exI.cost p := by
  intro p _
  simp only [exI]
  split_ifs <;> norm_num
example := sat_perm .relCost exI exP exApp (show [2, 0, 1].Perm [0, 1, 2] by decide)
example := normaliser_relCost_optimal exI exApp (by norm_num [exI])
-- the relative-cost normaliser is exactly 2/3 (D9), so projects 0 and 1 together give satisfaction 1
example : normaliser .relCost exI exApp = 2 / 3 := by decide +kernel
example : sat .relCost exI exP exApp [0, 1] = 1 := by decide +kernel
example : sat .relCost exI exP exApp [1, 0] = sat .relCost exI exP exApp [0, 1] := by decide +kernel
example : satProject .effort exI exP exApp 2 = 1 / 3 := by decide +kernel
example : normaliser .relCardinality exI exApp = 2 := by decide +kernel
example : sat .cc exI exP exCard [1, 2, 0] = 3 ∧ sat .cc exI exP exCard [1] = 0 ∧ sat .cc exI exP exCard [] = 0 := by
  decide +kernel
example : satProject .borda exI exP (.ord [2, 0, 1]) 2 = 2 ∧ sat .borda exI exP (.ord [2, 0]) [0, 1, 2] = 1 := by
  decide +kernel

end Pabu.C10
