/-
  C07 (analytics part) — what is computed FROM the recorded Equal Shares run: the project details of
  the iterations, `calculate_project_loss`, `calculate_effective_support` (model:
  PabuModel/MESAnalytics.lean).  Property theorems and satisfiability examples; the lemmas they rest
  on are in PabuProofs/Lemmas/MESAnalytics.lean.
-/
import PabuProofs.Lemmas.MESAnalytics
namespace Pabu.C07A
open MES MESLazy MESAnalytics

/-! ### Project loss -/

/-- every record of `projectLoss` is a `_create_project_loss` record over a prefix of the iterations
    handed over: of the selected project (money at the start of its iteration, purchases before it)
    or of another project (money at the end of a selecting iteration, purchases up to it) -/
theorem projectLoss_records (V : VCtx) (L' : List (Iteration × List Pid × List Pid)) (x : Loss)
    (hx : x ∈ projectLoss V L') :
    ∃ pre e post, L' = pre ++ e :: post ∧
      ((∃ t, e.1.selected = some t ∧ x = mkLoss V t e.1.before (pre.map Prod.fst)) ∨
       (∃ t q, e.1.selected = some t ∧ x = mkLoss V q e.1.after (pre.map Prod.fst ++ [e.1]))) := by
  obtain ⟨pre, e, post, h1, h2⟩ := mem_lossGo V L' [] x hx
  simp only [List.nil_append] at h2
  exact ⟨pre, e, post, h1, h2⟩

/-- take the record `L` of a run (`MES.trace`) from per-voter money `b0` and
    hand its selecting iterations to `projectLoss`, with ANY project details (pool / discarded
    lists) attached.  For every record emitted — of a selected project, of a discarded one, of one
    left over after the last purchase — the supporters' budget plus everything listed in
    `budget_lost` is exactly the money the supporters of that project started with
    (Σ multiplicity × b0 over its supporters). -/
theorem loss_conservation {V : VCtx} {I : Inst} {init : List Pid}
    {order : List Pid → Except Err (List Pid)}
    (hord : ∀ T l, order T = .ok l → ∀ x ∈ l, x ∈ T) {b0 : Rat} {n : Nat} {L : List Iteration}
    (hL : trace V I.cost order n (initState V I init b0) = .ok L)
    (L' : List (Iteration × List Pid × List Pid)) (hL' : L'.map Prod.fst = selecting L) :
    ∀ x ∈ projectLoss V L',
      x.supportersBudget + x.total =
        sumOver (supporters V x.project) (fun i => (V.m i : Rat) * b0) := by
  intro x hx
  obtain ⟨s', hrec, _⟩ := trace_recorded hord _ _ L hL
  obtain ⟨pre, e, post, hsplit, hcase⟩ := projectLoss_records V L' x hx
  have hsel : L = pre.map Prod.fst ++ e.1 ::
      (post.map Prod.fst ++ [⟨budgets V s'.b, none, none, []⟩]) := by
    have h1 := selecting_split hrec
    rw [← hL', hsplit] at h1
    rw [h1]; simp
  rcases hcase with ⟨t, ht, rfl⟩ | ⟨t, q, ht, rfl⟩
  · exact conserve_prefix hrec t _ _ _ hsel
  · exact conserve_after hrec q hsel ht

/-- the same for the iterations as `traceL` records them, when their budgets and selections are
    those of the eager record (the driver checks this equality on every case) -/
theorem loss_conservation_details {V : VCtx} {I : Inst} {init : List Pid}
    {order : List Pid → Except Err (List Pid)}
    (hord : ∀ T l, order T = .ok l → ∀ x ∈ l, x ∈ T) {b0 : Rat} {n : Nat} {L : List Iteration}
    (hL : trace V I.cost order n (initState V I init b0) = .ok L)
    (D : List Details) (hD : D.map Details.toIteration = L) :
    ∀ x ∈ projectLossOfDetails V D,
      x.supportersBudget + x.total =
        sumOver (supporters V x.project) (fun i => (V.m i : Rat) * b0) := by
  apply loss_conservation hord hL
  rw [← hD]
  unfold selecting
  rw [List.map_map, List.filter_map]
  rfl

/-- `budget_lost` of a record lists exactly the projects bought in the
    iterations handed to it that share a supporter with the project, each with what the common
    supporters spent in that iteration (weighted by multiplicity) -/
theorem loss_only_supporters (V : VCtx) (p : Pid) (money : List Rat) (earlier : List Iteration)
    (q : Pid) (x : Rat) : (q, x) ∈ (mkLoss V p money earlier).budgetLost ↔
      ∃ it ∈ earlier, it.selected = some q ∧ (∃ i ∈ V.vs, 0 < V.u i p ∧ 0 < V.u i q) ∧
        x = lostTo V p q it :=
  mem_budgetLost V p money earlier q x

/-- in the records `projectLoss` emits, a listed project was bought in an earlier (or, for the extra
    records, the same) iteration of the list handed over and shares a supporter with the project -/
theorem loss_only_earlier (V : VCtx) (L' : List (Iteration × List Pid × List Pid)) (x : Loss)
    (hx : x ∈ projectLoss V L') (q : Pid) (y : Rat) (hq : (q, y) ∈ x.budgetLost) :
    (∃ e ∈ L', e.1.selected = some q) ∧ ∃ i ∈ V.vs, 0 < V.u i x.project ∧ 0 < V.u i q := by
  obtain ⟨pre, e, post, hsplit, hcase⟩ := projectLoss_records V L' x hx
  rcases hcase with ⟨t, _, rfl⟩ | ⟨t, q', _, rfl⟩
  · obtain ⟨it, hit, hsel, hsh, _⟩ := (mem_budgetLost V t _ _ q y).mp hq
    obtain ⟨e', he', rfl⟩ := List.mem_map.mp hit
    exact ⟨⟨e', by rw [hsplit]; simp [he'], hsel⟩, hsh⟩
  · obtain ⟨it, hit, hsel, hsh, _⟩ := (mem_budgetLost V q' _ _ q y).mp hq
    rcases List.mem_append.mp hit with hit | hit
    · obtain ⟨e', he', rfl⟩ := List.mem_map.mp hit
      exact ⟨⟨e', by rw [hsplit]; simp [he'], hsel⟩, hsh⟩
    · have : it = e.1 := by simpa using hit
      subst this
      exact ⟨⟨e, by rw [hsplit]; simp, hsel⟩, hsh⟩

/-! ### Effective support -/

/-- `int(cover / cost * 100)` is the floor of that number -/
theorem pct_spec (c cost : Rat) :
    ((pct c cost : Int) : Rat) ≤ c / cost * 100 ∧ c / cost * 100 < ((pct c cost : Int) : Rat) + 1 := by
  unfold pct
  have h := Rat.lt_floor_add_one (c / cost * 100)
  push_cast at h
  exact ⟨Rat.floor_le _, h⟩

/-- one round reports at least 100 exactly when the supporters could cover the cost -/
theorem pct_ge_100_iff (c cost : Rat) (hc : 0 < cost) : 100 ≤ pct c cost ↔ cost ≤ c := by
  rw [pct, Rat.le_floor_iff, Int.cast_ofNat, le_mul_iff_one_le_left (by norm_num : (0 : Rat) < 100),
    one_le_div₀ hc]

theorem effectiveSupport_picked_ge_100 (V : VCtx) (I : Inst) (init : List Pid)
    (order : List Pid → Except Err (List Pid)) (b0 : Rat) (p : Pid) (e : Int)
    (h : effectiveSupport V I init order b0 p true = .ok e) : 100 ≤ e := by
  obtain ⟨e0, _, rfl⟩ := effectiveSupport_ok h
  exact le_max_right _ _

/-- about the fold `effFold` inside `effectiveSupport`, not the reported value: the running maximum
    is at least its start value and at least the value of every round, extending the run can only
    increase it, and it is attained (by the start value or by the value of some round) -/
theorem effectiveSupport_monotone (V : VCtx) (cost : Pid → Rat) (p : Pid) (acc : Int)
    (L L' : List Iteration) :
    acc ≤ effFold V cost p acc L ∧
      (∀ it ∈ L, effOfIter V cost p it ≤ effFold V cost p acc L) ∧
      effFold V cost p acc L ≤ effFold V cost p acc (L ++ L') ∧
      (effFold V cost p acc L = acc ∨ ∃ it ∈ L, effFold V cost p acc L = effOfIter V cost p it) := by
  refine ⟨effFold_ge_acc V cost p L acc, effFold_ge_iter V cost p L acc, ?_,
    effFold_attained V cost p L acc⟩
  rw [effFold_append]
  exact effFold_ge_acc V cost p L' _

theorem effectiveSupport_nonneg (V : VCtx) (I : Inst) (init : List Pid)
    (order : List Pid → Except Err (List Pid)) (b0 : Rat) (p : Pid) (picked : Bool) (e : Int)
    (h : effectiveSupport V I init order b0 p picked = .ok e) : 0 ≤ e := by
  obtain ⟨e0, hr, rfl⟩ := effectiveSupport_ok h
  refine le_trans ?_ (le_atLeast100 picked e0)
  unfold effRaw at hr
  split at hr
  · split at hr
    · cases hr
    · rw [← Except.ok.inj hr]
      exact effFold_ge_acc V I.cost p _ 0
  · rw [← Except.ok.inj hr]

/-- a project outside the pool of Equal Shares has effective support 0 (100 if it was picked) -/
theorem effectiveSupport_outside_pool (V : VCtx) (I : Inst) (init : List Pid)
    (order : List Pid → Except Err (List Pid)) (b0 : Rat) (p : Pid) (picked : Bool)
    (hp : p ∉ initPool V I init) :
    effectiveSupport V I init order b0 p picked = .ok (if picked = true then 100 else 0) := by
  unfold effectiveSupport effRaw
  have : ¬ (initPool V I init).contains p = true := by simpa using hp
  rw [if_neg this]
  unfold atLeast100
  dsimp only
  by_cases hpk : picked = true
  · rw [if_pos hpk, if_pos hpk]; rfl
  · rw [if_neg hpk, if_neg hpk]

/-! ### Project details: `discarded` -/

/-- in one round of the real (lazy) loop from state `s`, a project is
    marked as discarded exactly if the loop looks at it (`reached`: the prefix of the visiting order
    walked before the `break`) and its supporters hold less than its cost -/
theorem discarded_iff_unaffordable (V : VCtx) (cost : Pid → Rat) (bin : Bool) (s : LState) (p : Pid) :
    p ∈ (scan V cost bin s).dropped ↔
      p ∈ reached V cost bin s ∧ budSum (sups V s.b p) < cost p := by
  rw [dropped_eq_filter]
  simp only [List.mem_filter, decide_eq_true_eq]

theorem reached_is_prefix (V : VCtx) (cost : Pid → Rat) (bin : Bool) (s : LState) :
    reached V cost bin s <+: visit s := reached_prefix V cost bin s

/-- in a round that ties nothing (the last recorded iteration) the loop never breaks: a project of
    the pool is discarded iff its supporters hold less than its cost -/
theorem discarded_terminal_iff (V : VCtx) (cost : Pid → Rat) (bin : Bool) (s : LState)
    (h : tiedLazy V cost bin s = []) (p : Pid) :
    p ∈ (scan V cost bin s).dropped ↔ p ∈ s.pool ∧ budSum (sups V s.b p) < cost p := by
  rw [discarded_iff_unaffordable, reached_all V cost bin s h, mem_visit]

/-- under the run's invariants (no negative money, multiplicities ≥ 1, positive costs in the
    pool) that is every project of the pool: the last iteration discards everything left -/
theorem terminal_all_discarded {V : VCtx} {cost : Pid → Rat} (bin : Bool) (s : LState)
    (hb : ∀ i ∈ V.vs, 0 ≤ s.b i) (hm : ∀ i ∈ V.vs, 1 ≤ V.m i) (hc : ∀ p ∈ s.pool, 0 < cost p)
    (h : tiedLazy V cost bin s = []) : ∀ p ∈ s.pool, p ∈ (scan V cost bin s).dropped := by
  intro p hp
  rw [discarded_terminal_iff V cost bin s h]
  refine ⟨hp, ?_⟩
  by_contra haff
  have hnb := scan_noBreak V cost bin s
  have hbest : (scan V cost bin s).best = none := by_contra fun hbn => hnb.2 hbn h
  have hpr := foldl_no_price bin (visit s) (acc0 s) (acc0_noBreak s) hbest p (mem_visit.mpr hp) haff
  rw [price_eq_rho] at hpr
  exact haff ((rho_none_iff ⟨hb, hm⟩ (hc p hp)).mp hpr)

/-- link to the eager model: a discarded project has no price (`MES.rho … = none`) -/
theorem discarded_rho_none {V : VCtx} {cost : Pid → Rat} (bin : Bool) (s : LState)
    (hb : ∀ i ∈ V.vs, 0 ≤ s.b i) (hm : ∀ i ∈ V.vs, 1 ≤ V.m i) (p : Pid) (hc : 0 < cost p)
    (h : p ∈ (scan V cost bin s).dropped) : rho V cost s.b p = none ∧ p ∈ s.pool := by
  obtain ⟨h1, h2⟩ := (discarded_iff_unaffordable V cost bin s p).mp h
  exact ⟨(rho_none_iff ⟨hb, hm⟩ hc).mpr h2, mem_visit.mp ((reached_prefix V cost bin s).subset h1)⟩

/-- on the recorded details: a project an iteration lists as discarded is in the pool of that
    iteration and the money its supporters hold at the start of the iteration (with multiplicity,
    read off the recorded budgets) is less than its cost -/
theorem traceL_discarded {V : VCtx} {cost : Pid → Rat} {order : List Pid → Except Err (List Pid)}
    (bin : Bool) (n : Nat) (s : LState) (D : List Details)
    (hD : traceL V cost order bin n s = .ok D) :
    ∀ d ∈ D, ∀ p ∈ d.discarded, p ∈ d.pool ∧ supBudget V p d.before < cost p := by
  intro d hd p hp
  obtain ⟨s', h1, h2, h3, _⟩ := traceL_details bin n s D hD d hd
  rw [h2] at hp
  obtain ⟨hr, hu⟩ := (discarded_iff_unaffordable V cost bin s' p).mp hp
  refine ⟨by rw [h1]; exact mem_visit.mp ((reached_prefix V cost bin s').subset hr), ?_⟩
  rw [h3, supBudget_budgets, ← budSum_sups_eq]
  exact hu

/-! ### The hypotheses are satisfiable and the statements are not vacuous -/

def exV : VCtx := ⟨[0, 1, 2], fun i => i + 1,
  fun i p => if p = 4 then (if i = 2 then 1 else 0) else if (i + p) % 2 = 0 then 1 else 0⟩
def exI : Inst := ⟨[0, 1, 2, 3, 4], fun p => if p = 4 then 3 else if p = 3 then 5 / 2 else (p : Rat), 6⟩
def exOrder : List Pid → Except Err (List Pid) := fun l => .ok l

/-- the order function satisfies the hypothesis of `loss_conservation` -/
example : ∀ T l, exOrder T = .ok l → ∀ x ∈ l, x ∈ T := by
  intro T l h x hx; cases h; exact hx

/-- three voter entries with multiplicities 1,2,3 and one unit of money each; pool 1,2,3,4 handed
    over in the set order 4,3,1,2.  Project 3 (cost 5/2, its supporters hold 2) is unaffordable from
    the start but is NOT marked as discarded in the first two iterations: the loop walks 1, 2, 4 and
    breaks on 4, whose stored affordability 1 exceeds the best price 1/2, before reaching 3 … -/
example : reached exV exI.cost false (initStateA exV exI [] 1 [4, 3, 1, 2] none) = [1, 2, 4] ∧
    visit (initStateA exV exI [] 1 [4, 3, 1, 2] none) = [1, 2, 4, 3] ∧
    budSum (sups exV (fun _ => 1) 3) < exI.cost 3 := by
  decide +kernel

/-- the recorded details on this input: two purchases, then the last iteration discards what is left -/
example : (match details exV exI [] exOrder false 1 [4, 3, 1, 2] with
    | .error _ => none
    | .ok D => some (D.map (fun d : Details => (d.pool, d.discarded, d.priced, d.selected)))) =
    some [([4, 3, 1, 2], [], [1, 2], some 1), ([4, 3, 2], [], [2], some 2),
          ([4, 3], [4, 3], [], none)] := by
  decide +kernel

/-- the loss records on this input (last component: supporters' budget + total lost = initial money
    of the supporters): project 4, left over after the last purchase, shares entry 2 with project 2
    and lost 3/2 to it; project 3 shares entry 1 with project 1 -/
example : (match details exV exI [] exOrder false 1 [4, 3, 1, 2] with
    | .error _ => none
    | .ok D => some ((projectLossOfDetails exV D).map
        (fun x : Loss => (x.project, x.supportersBudget, x.supportersBudget + x.total)))) =
    some [(1, 2, 2), (2, 4, 4), (4, 3 / 2, 3), (3, 1, 2)] ∧
  (match details exV exI [] exOrder false 1 [4, 3, 1, 2] with
    | .error _ => none
    | .ok D => some ((projectLossOfDetails exV D).map (fun x : Loss => x.budgetLost))) =
    some [[], [], [(2, 3 / 2)], [(1, 1)]] := by
  decide +kernel

/-- effective supports on this input: 0 (zero cost, picked, outside the pool), 1 and 2 are picked
    (≥ 100); 3 and 4 are not picked and stay below 100 -/
example : effectiveSupports exV exI [] exOrder 1 [0, 1, 2] =
    .ok [(0, 100), (1, 200), (2, 100), (3, 40), (4, 50)] := by
  decide +kernel

end Pabu.C07A
