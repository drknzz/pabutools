/-
  C12 ← C07, for the OTHER ways the library runs the Method of Equal Shares (Properties/C12Mes.lean:
  `mesAt_priceable`, the resolute run at any per-voter budget with a feasible outcome, and its case
  `mes_priceable`, the plain rule): the outcomes are priceable, with the payments recorded by a run as
  the price system.

  Setting of `mes_priceable`: approval list profile of `n` voters, `app i p`, additive utilities `u`
  positive exactly on the approved projects, no initial projects.

  * `mes_irresolute_priceable`     every allocation in `MES.runAll …`: it is the name-sorted outcome of the
                                   resolute run under some strict order `π` (C08), and that run's payments,
                                   voter budget `budget / n`, are a price system for it.
  * `mes_iterated_priceable`       the iterated rule (`voter_budget_increment`): the outcome is the
                                   FEASIBLE outcome of the run at `b' = budget / n + k·inc`, so it is
                                   priceable with voter budget `b'`; moreover `budget ≤ n · b'`, which
                                   is the clause `b · n ≥ budget limit` the library's MIP search adds
                                   when it searches for the allocation (priceability.py:333).
  * `mes_iteratedAll_priceable`    both together.
  The conclusion `Priceable I.projects I.cost I.budget W apps false false` is always about the ORIGINAL
  instance.
-/
import PabuProofs.Lemmas.MesVariants
import PabuProofs.Properties.C12Mes
namespace Pabu.Price
open Pabu Pabu.MES Pabu.PriceMes

/-! ### irresolute -/

theorem mesAllAt_priceable {I : Inst} {n : Nat} {u : Nat → Pid → Rat} {app : Nat → Pid → Bool}
    {order : List Pid → Except Err (List Pid)}
    (hord : ∀ T l, order T = .ok l → ∀ x ∈ l, x ∈ T)
    (hproj : I.projects.Nodup) (hcost : ∀ p ∈ I.projects, 0 ≤ I.cost p) {b0 : Rat} (hb0 : 0 ≤ b0)
    (hpos : ∀ i, i < n → ∀ p ∈ I.projects, (0 < u i p ↔ app i p = true))
    {Ls : List (List Pid)} (hLs : runAllAt (listV n u) I [] order b0 = .ok Ls) :
    ∀ W ∈ Ls, I.isFeasible W = true →
      ∃ (π : List Pid) (W0 : List Pid) (L : List Iteration), π.Perm I.projects ∧
        runAt (listV n u) I [] (Tie.order (.perm π) I.cost (fun _ => 0)) b0 = .ok W0 ∧ W = sortIds W0 ∧
        trace (listV n u) I.cost (Tie.order (.perm π) I.cost (fun _ => 0)) (initPool (listV n u) I []).length
          (initState (listV n u) I [] b0) = .ok L ∧
        Exact (inputOf I n app L W b0) false false ∧
        validate (inputOf I n app L W b0) false false = true ∧
        Priceable I.projects I.cost I.budget W ((List.range n).map app) false false := by
  intro W hWL hfeas
  obtain ⟨π, hπ, W0, hW0, rfl⟩ := runAllAt_realised hord hproj I.cost (fun _ => 0) hLs W hWL
  have hperm : (sortIds W0).Perm W0 := sortIds_perm W0
  have hfeas0 : I.isFeasible W0 = true :=
    (congrArg (fun c => decide (c ≤ I.budget)) (costOf_perm I.cost hperm)).symm.trans hfeas
  obtain ⟨L, hL, _, hE, _, _⟩ := mesAt_priceable (app := app) (Tie.order_mem _ _ _) (Tie.order_ne_nil _ _ _)
    hproj hcost hb0 hpos hW0 hfeas0
  have hE' : Exact (inputOf I n app L (sortIds W0) b0) false false := hE.perm_W hperm.symm
  exact ⟨π, W0, L, hπ, hW0, rfl, hL, hE', accepted_of_exact hE'⟩

/-- **irresolute Equal Shares is priceable**: every allocation in `MES.runAll …` (hypotheses of `mes_priceable`; the
    order function only has to return members of the tied set), voter budget `budget / n` -/
theorem mes_irresolute_priceable {I : Inst} {n : Nat} {u : Nat → Pid → Rat} {app : Nat → Pid → Bool}
    {order : List Pid → Except Err (List Pid)}
    (hord : ∀ T l, order T = .ok l → ∀ x ∈ l, x ∈ T)
    (hproj : I.projects.Nodup) (hcost : ∀ p ∈ I.projects, 0 ≤ I.cost p) (hB : 0 ≤ I.budget)
    (hpos : ∀ i, i < n → ∀ p ∈ I.projects, (0 < u i p ↔ app i p = true))
    {Ls : List (List Pid)} (hLs : MES.runAll (listV n u) I [] order = .ok Ls) :
    ∀ W ∈ Ls,
      ∃ (π : List Pid) (W0 : List Pid) (L : List Iteration), π.Perm I.projects ∧
        MES.run (listV n u) I [] (Tie.order (.perm π) I.cost (fun _ => 0)) = .ok W0 ∧ W = sortIds W0 ∧
        trace (listV n u) I.cost (Tie.order (.perm π) I.cost (fun _ => 0)) (initPool (listV n u) I []).length
          (initState (listV n u) I [] (I.budget / (n : Nat))) = .ok L ∧
        Exact (inputOf I n app L W (I.budget / (n : Nat))) false false ∧
        validate (inputOf I n app L W (I.budget / (n : Nat))) false false = true ∧
        Priceable I.projects I.cost I.budget W ((List.range n).map app) false false := by
  intro W hW
  have hfeas := runAllAt_share_feasible (listV_inputOK (I := I) n u hproj hcost) hord hB hLs W hW
  rw [runAll_listV] at hLs
  obtain ⟨π, W0, L, hπ, hW0, hrest⟩ := mesAllAt_priceable (app := app) hord hproj hcost
    (div_nonneg hB (Nat.cast_nonneg n)) hpos hLs W hW hfeas
  exact ⟨π, W0, L, hπ, run_listV I n u [] _ ▸ hW0, hrest⟩

/-! ### iterated -/

/-- **iterated Equal Shares is priceable** for the original instance: the outcome is the feasible outcome of the run
    at the per-voter budget `b' = budget / n + k·inc` of some try, the payments recorded by that run with voter
    budget `b'` are a price system for it, and `budget ≤ n · b'` -/
theorem mes_iterated_priceable {I : Inst} {n : Nat} {u : Nat → Pid → Rat} {app : Nat → Pid → Bool}
    {order : List Pid → Except Err (List Pid)}
    (hord : ∀ T l, order T = .ok l → ∀ x ∈ l, x ∈ T) (hne : ∀ T, T ≠ [] → order T ≠ .ok [])
    (hproj : I.projects.Nodup) (hcost : ∀ p ∈ I.projects, 0 ≤ I.cost p) (hB : 0 ≤ I.budget)
    (hpos : ∀ i, i < n → ∀ p ∈ I.projects, (0 < u i p ↔ app i p = true))
    {inc : Rat} (hinc : 0 ≤ inc) {fuel : Nat} {prev W : List Pid}
    (hW : MES.iterated (listV n u) I [] order inc fuel (I.budget / (n : Nat)) prev = .ok W) :
    ∃ (k : Nat) (L : List Iteration),
      runAt (listV n u) I [] order (I.budget / (n : Nat) + k * inc) = .ok W ∧
      trace (listV n u) I.cost order (initPool (listV n u) I []).length
        (initState (listV n u) I [] (I.budget / (n : Nat) + k * inc)) = .ok L ∧
      Exact (inputOf I n app L W (I.budget / (n : Nat) + k * inc)) false false ∧
      validate (inputOf I n app L W (I.budget / (n : Nat) + k * inc)) false false = true ∧
      Priceable I.projects I.cost I.budget W ((List.range n).map app) false false ∧
      (0 < n → I.budget ≤ (n : Rat) * (I.budget / (n : Nat) + k * inc)) := by
  have hok := listV_inputOK (I := I) n u hproj hcost
  have hW' : MES.iterated (listV n u) I [] order inc fuel (I.budget / (numVoters (listV n u) : Nat)) prev = .ok W := by
    rw [numVoters_listV]; exact hW
  obtain ⟨k, hk, hf⟩ := iterated_share_is_runAt hok hord hB hW'
  rw [numVoters_listV] at hk
  obtain ⟨L, hL, _, hE, hv, hP⟩ := mesAt_priceable (app := app) hord hne hproj hcost
    ((div_nonneg hB (Nat.cast_nonneg n)).trans (le_try hinc k)) hpos hk hf
  refine ⟨k, L, hk, hL, hE, hv, hP, fun hn => ?_⟩
  have hnq : (0 : Rat) < (n : Rat) := Nat.cast_pos.mpr hn
  rw [mul_add, mul_div_cancel₀ _ hnq.ne']
  exact le_add_of_nonneg_right (mul_nonneg hnq.le (mul_nonneg (Nat.cast_nonneg k) hinc))

/-- **iterated irresolute Equal Shares is priceable**: every allocation returned -/
theorem mes_iteratedAll_priceable {I : Inst} {n : Nat} {u : Nat → Pid → Rat} {app : Nat → Pid → Bool}
    {order : List Pid → Except Err (List Pid)}
    (hord : ∀ T l, order T = .ok l → ∀ x ∈ l, x ∈ T)
    (hproj : I.projects.Nodup) (hcost : ∀ p ∈ I.projects, 0 ≤ I.cost p) (hB : 0 ≤ I.budget)
    (hpos : ∀ i, i < n → ∀ p ∈ I.projects, (0 < u i p ↔ app i p = true))
    {inc : Rat} (hinc : 0 ≤ inc) {fuel : Nat} {prev Ws : List (List Pid)}
    (hW : MES.iteratedAll (listV n u) I [] order inc fuel (I.budget / (n : Nat)) prev = .ok Ws) :
    ∃ k : Nat, runAllAt (listV n u) I [] order (I.budget / (n : Nat) + k * inc) = .ok Ws ∧
      ∀ W ∈ Ws, I.isFeasible W = true ∧
        Priceable I.projects I.cost I.budget W ((List.range n).map app) false false := by
  have hok := listV_inputOK (I := I) n u hproj hcost
  have hW' : MES.iteratedAll (listV n u) I [] order inc fuel (I.budget / (numVoters (listV n u) : Nat)) prev =
      .ok Ws := by
    rw [numVoters_listV]; exact hW
  obtain ⟨k, hk, hf⟩ := iteratedAll_share_is_runAllAt hok hord hB hW'
  rw [numVoters_listV] at hk
  refine ⟨k, hk, fun W hWs => ⟨hf W hWs, ?_⟩⟩
  obtain ⟨_, _, _, _, _, _, _, _, _, hP⟩ := mesAllAt_priceable (app := app) hord hproj hcost
    ((div_nonneg hB (Nat.cast_nonneg n)).trans (le_try hinc k)) hpos hk W hWs (hf W hWs)
  exact hP

/-! ### The hypotheses are satisfiable: a real tie, and an iterated run that takes two increments -/

/-- two voters approving the unit-cost projects 0 and 1, voter 0 also project 2; budget 1 -/
def tieI : Inst := ⟨[0, 1, 2], fun _ => 1, 1⟩
def tieApp : Nat → Pid → Bool := fun i p => p != 2 || i == 0
def tieU : Nat → Pid → Rat := fun i p => if tieApp i p = true then 1 else 0

theorem tieEx_hyps : tieI.projects.Nodup ∧ (∀ p ∈ tieI.projects, 0 ≤ tieI.cost p) ∧ 0 ≤ tieI.budget ∧
    (∀ i, i < 2 → ∀ p ∈ tieI.projects, (0 < tieU i p ↔ tieApp i p = true)) :=
  ⟨by decide, fun _ _ => zero_le_one, zero_le_one, fun _ _ _ _ => indicator_pos_iff _⟩

/-- projects 0 and 1 tie: two irresolute outcomes -/
theorem tieEx_run : MES.runAll (listV 2 tieU) tieI [] (Tie.order .lexico tieI.cost (fun _ => 0)) = .ok [[0], [1]] := by
  decide +kernel

example : ∀ W ∈ [[0], [1]], Priceable tieI.projects tieI.cost tieI.budget W ((List.range 2).map tieApp) false false := by
  obtain ⟨h1, h2, h3, h4⟩ := tieEx_hyps
  intro W hW
  obtain ⟨_, _, _, _, _, _, _, _, _, hP⟩ :=
    mes_irresolute_priceable (app := tieApp) (Tie.order_mem _ _ _) h1 h2 h3 h4 tieEx_run W hW
  exact hP

/-- two voters approving `{1, 2}` and `{2, 3}`, costs 2, 2, 3, budget 4 (share 2), increment 1/2 -/
def itI : Inst := ⟨[1, 2, 3], fun p => if p = 3 then 3 else 2, 4⟩
def itApp : Nat → Pid → Bool := fun i p => (i == 0 && (p == 1 || p == 2)) || (i == 1 && (p == 2 || p == 3))
def itU : Nat → Pid → Rat := fun i p => if itApp i p = true then 1 else 0

theorem itEx_hyps : itI.projects.Nodup ∧ (∀ p ∈ itI.projects, 0 ≤ itI.cost p) ∧ 0 ≤ itI.budget ∧
    (∀ i, i < 2 → ∀ p ∈ itI.projects, (0 < itU i p ↔ itApp i p = true)) := by
  refine ⟨by decide, ?_, by norm_num [itI], fun _ _ _ _ => indicator_pos_iff _⟩
  intro p _
  show (0 : Rat) ≤ if p = 3 then 3 else 2
  split <;> norm_num

/-- budgets 2, 5/2 buy `[2]` (not exhaustive), budget 3 buys `[2, 1]`: two increments; `n · b' = 6 > 4 = budget` -/
theorem itEx_run :
    runAt (listV 2 itU) itI [] (Tie.order .lexico itI.cost (fun _ => 0)) 2 = .ok [2] ∧
    runAt (listV 2 itU) itI [] (Tie.order .lexico itI.cost (fun _ => 0)) (5 / 2) = .ok [2] ∧
    runAt (listV 2 itU) itI [] (Tie.order .lexico itI.cost (fun _ => 0)) 3 = .ok [2, 1] ∧
    MES.iterated (listV 2 itU) itI [] (Tie.order .lexico itI.cost (fun _ => 0)) (1 / 2) 5
      (itI.budget / (2 : Nat)) [] = .ok [2, 1] := by
  refine ⟨?_, ?_, ?_, ?_⟩ <;> decide +kernel

example : Priceable itI.projects itI.cost itI.budget [2, 1] ((List.range 2).map itApp) false false := by
  obtain ⟨h1, h2, h3, h4⟩ := itEx_hyps
  obtain ⟨_, _, _, _, _, _, hP, _⟩ := mes_iterated_priceable (app := itApp) (Tie.order_mem _ _ _)
    (Tie.order_ne_nil _ _ _) h1 h2 h3 h4 (by norm_num) itEx_run.2.2.2
  exact hP

/-- … and the price system the theorem speaks about (recorded payments, voter budget 3, so `n · b' = 6 > 4`),
    computed directly, passes the validator and the exact conditions -/
example :
    (match trace (listV 2 itU) itI.cost (Tie.order .lexico itI.cost (fun _ => 0))
        (initPool (listV 2 itU) itI []).length (initState (listV 2 itU) itI [] 3) with
     | .ok L => validate (inputOf itI 2 itApp L [2, 1] 3) false false &&
         exact (inputOf itI 2 itApp L [2, 1] 3) false false
     | .error _ => false) = true := by decide +kernel

end Pabu.Price
