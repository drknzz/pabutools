/-
  C06 — profiles and multiprofiles are interchangeable (model side).
  A voter ENTRY with multiplicity `m` behaves exactly like `m` identical voters of multiplicity 1:
  `Profile.expand` replaces every entry `(b, m)` by `m` copies `(b, 1)` (a list profile);
  `expandV` / `Phragmen.expandC` do the same to the voter contexts of the rules, and
  `VCtx.ofProfile μ I P.expand` / `Phragmen.Ctx.ofProfile I P.expand` are the contexts the driver
  builds for the list profile.  Proofs are in PabuProofs/Lemmas/Expand.lean.
-/
import PabuProofs.Lemmas.Expand
import PabuProofs.Lemmas.Tie
import PabuModel.MaxWelfare
namespace Pabu.C06

/-! ### Counts, scores, satisfaction measures -/

/-- the expansion is a list profile -/
theorem expand_is_list (P : Profile) :
    (∀ e ∈ P.expand, e.2 = 1) ∧
      ∀ b k, (b, k) ∈ P.expand ↔ k = 1 ∧ ∃ m, (b, m) ∈ P ∧ 0 < m :=
  ⟨expand_mult_one P, fun _ _ => mem_expand⟩

theorem numBallots_expand (P : Profile) :
    P.expand.numBallots = P.numBallots ∧ P.expand.length = P.numBallots :=
  ⟨Pabu.numBallots_expand P, length_expand P⟩

/-- also what the approval-score tie-breaking sees -/
theorem approvalScore_expand (P : Profile) (p : Pid) :
    P.expand.approvalScore p = P.approvalScore p := Pabu.approvalScore_expand P p

/-- the denominator of `Effort_Sat` counts voters, not entries -/
theorem effortDenominator_expand (P : Profile) (p : Pid) :
    effortDenominator P.expand p = effortDenominator P p := Pabu.effortDenominator_expand P p

theorem satProject_expand (μ : Measure) (I : Inst) (P : Profile) (b : Ballot) (p : Pid) :
    satProject μ I P.expand b p = satProject μ I P b p := Pabu.satProject_expand μ I P b p

theorem sat_expand (μ : Measure) (I : Inst) (P : Profile) (b : Ballot) (l : List Pid) :
    sat μ I P.expand b l = sat μ I P b l := Pabu.sat_expand μ I P b l

theorem totalSat_expand (μ : Measure) (I : Inst) (P : Profile) (l : List Pid) :
    sumOver P.expand (fun e => ((e.2 : Nat) : Rat) * sat μ I P.expand e.1 l) =
      sumOver P (fun e => ((e.2 : Nat) : Rat) * sat μ I P e.1 l) :=
  congrFun (totalSatOf_expand μ I P) l

theorem weightedSum_expand (f : Ballot → Rat) (P : Profile) :
    sumOver P.expand (fun e => ((e.2 : Nat) : Rat) * f e.1) =
      sumOver P (fun e => ((e.2 : Nat) : Rat) * f e.1) := totalSat_expand_indep f P

/-- every shipped tie-breaking rule orders tied projects identically for `P` and `P.expand` -/
theorem tieOrder_expand (t : Tie) (cost : Pid → Rat) (P : Profile) :
    t.order cost P.expand.approvalScore = t.order cost P.approvalScore := by
  rw [approvalScore_expand_fun]

/-! ### Supporter lists and the price of a project -/

theorem sums_expandSups (l : List Sup) :
    budSum (expandSups l) = budSum l ∧ utilSum (expandSups l) = utilSum l ∧
      ∀ r, paySum r (expandSups l) = paySum r l :=
  ⟨budSum_expandSups l, utilSum_expandSups l, fun r => paySum_expandSups r l⟩

theorem shape_expandSups (l : List Sup) :
    ((∀ s ∈ l, s.WF) → ∀ t ∈ expandSups l, t.WF) ∧ (SortedRatio l → SortedRatio (expandSups l)) ∧
      (∀ t ∈ expandSups l, t.m = 1) :=
  ⟨expandSups_wf, expandSups_sorted, expandSups_mult_one⟩

theorem price_expand (l : List Sup) (C : Rat) (hw : ∀ s ∈ l, s.WF) (hC : 0 < C)
    (haff : C ≤ budSum l) :
    sweep C (utilSum (expandSups l)) (sortLe ratioLe (expandSups l)) =
      sweep C (utilSum l) (sortLe ratioLe l) := Pabu.price_expand l C hw hC haff

/-- the price on the copies is the least price at which the entries (with multiplicity) cover
    the cost -/
theorem price_expand_least (l : List Sup) (C : Rat) (hw : ∀ s ∈ l, s.WF) (hC : 0 < C)
    (haff : C ≤ budSum l) :
    ∃ r, sweep C (utilSum (expandSups l)) (sortLe ratioLe (expandSups l)) = some r ∧
      paySum r l = C ∧ 0 < r ∧ ∀ r', C ≤ paySum r' l → r ≤ r' :=
  Pabu.price_expand_least l C hw hC haff

theorem unaffordable_expand (l : List Sup) (C : Rat) :
    budSum (expandSups l) < C ↔ budSum l < C := by rw [budSum_expandSups]

theorem sups_expandV (V : VCtx) (b : Nat → Rat) (p : Pid) :
    (MES.sups (expandV V) (expandBudget V b) p).Perm (expandSups (MES.sups V b p)) :=
  MES.sups_copies (MES.copies_expandV V) (MES.budgetCopies_expand V b) p

theorem rho_expand (V : VCtx) (cost : Pid → Rat) (b : Nat → Rat) (p : Pid)
    (hb : ∀ i ∈ V.vs, 0 ≤ b i) (hm : ∀ i ∈ V.vs, 1 ≤ V.m i) (hc : 0 < cost p) :
    MES.rho (expandV V) cost (expandBudget V b) p = MES.rho V cost b p :=
  MES.rho_copies (MES.copies_expandV V) (MES.budgetCopies_expand V b) ⟨hb, hm⟩ hc

/-- for ANY context made of single copies of the entries, whatever their indices and order -/
theorem rho_copies {V V' : VCtx} {e : Nat → Nat} (h : MES.Copies V V' e) {b b' : Nat → Rat}
    (hbb : ∀ c ∈ V'.vs, b' c = b (e c)) (hb : ∀ i ∈ V.vs, 0 ≤ b i) (hm : ∀ i ∈ V.vs, 1 ≤ V.m i)
    {cost : Pid → Rat} {p : Pid} (hc : 0 < cost p) :
    MES.rho V' cost b' p = MES.rho V cost b p :=
  MES.rho_copies h hbb ⟨hb, hm⟩ hc

/-! ### Equal Shares: one round, whole runs -/

theorem stateCopies_expand {V : VCtx} {cost : Pid → Rat} {s : MES.State}
    (hb : ∀ i ∈ V.vs, 0 ≤ s.b i) (hp : ∀ p ∈ s.pool, 0 < cost p) :
    MES.StateCopies V (expandV V) (entryIn V.m V.vs) cost s (MES.expandState V s) :=
  ⟨⟨hb, hp⟩, MES.budgetCopies_expand V s.b, rfl, rfl⟩

theorem tied_expand (V : VCtx) (cost : Pid → Rat) (s : MES.State)
    (hm : ∀ i ∈ V.vs, 1 ≤ V.m i) (hb : ∀ i ∈ V.vs, 0 ≤ s.b i) (hp : ∀ p ∈ s.pool, 0 < cost p) :
    MES.tied (expandV V) cost (MES.expandState V s) = MES.tied V cost s ∧
      MES.best (expandV V) cost (MES.expandState V s) = MES.best V cost s :=
  ⟨MES.tied_copies (MES.copies_expandV V) hm (stateCopies_expand hb hp),
   MES.best_copies (MES.copies_expandV V) hm (stateCopies_expand hb hp)⟩

theorem pay_expand (V : VCtx) (b : Nat → Rat) (t : Pid) (r : Rat) (c : Nat) :
    MES.pay (expandV V) (expandBudget V b) t r c = MES.pay V b t r (entryIn V.m V.vs c) := rfl

theorem buy_expand (V : VCtx) (cost : Pid → Rat) (s : MES.State) (t : Pid)
    (hm : ∀ i ∈ V.vs, 1 ≤ V.m i) (hb : ∀ i ∈ V.vs, 0 ≤ s.b i) (hp : ∀ p ∈ s.pool, 0 < cost p)
    (ht : t ∈ s.pool) :
    (∀ c ∈ (expandV V).vs, (MES.buy (expandV V) cost (MES.expandState V s) t).b c =
        (MES.buy V cost s t).b (entryIn V.m V.vs c)) ∧
      (MES.buy (expandV V) cost (MES.expandState V s) t).pool = (MES.buy V cost s t).pool ∧
      (MES.buy (expandV V) cost (MES.expandState V s) t).alloc = (MES.buy V cost s t).alloc := by
  have h := MES.buy_copies (MES.copies_expandV V) hm (stateCopies_expand hb hp) ht
  exact ⟨h.b, h.pool, h.alloc⟩

theorem multi_eq_expand (V : VCtx) (cost : Pid → Rat) (ord : List Pid → List Pid)
    (hord : ∀ T, ∀ x ∈ ord T, x ∈ T) (n : Nat) (s : MES.State)
    (hm : ∀ i ∈ V.vs, 1 ≤ V.m i) (hb : ∀ i ∈ V.vs, 0 ≤ s.b i) (hp : ∀ p ∈ s.pool, 0 < cost p) :
    (MES.rule (expandV V) cost).runP ord n (MES.expandState V s) = (MES.rule V cost).runP ord n s :=
  (MES.inStep (MES.copies_expandV V) hm cost).runP ord hord n _ _ (stateCopies_expand hb hp)

theorem multi_eq_expand_all (V : VCtx) (cost : Pid → Rat) (n : Nat) (s : MES.State)
    (hm : ∀ i ∈ V.vs, 1 ≤ V.m i) (hb : ∀ i ∈ V.vs, 0 ≤ s.b i) (hp : ∀ p ∈ s.pool, 0 < cost p) :
    (MES.rule (expandV V) cost).runAllP n (MES.expandState V s) = (MES.rule V cost).runAllP n s :=
  (MES.inStep (MES.copies_expandV V) hm cost).runAllP (fun _ _ hx => hx) n _ _
    (stateCopies_expand hb hp)

/-- the runs the driver executes (`method_of_equal_shares`): outcome or error -/
theorem mes_run_expand (V : VCtx) (I : Inst) (init : List Pid)
    (order : List Pid → Except Err (List Pid))
    (hord : ∀ T l, order T = .ok l → ∀ x ∈ l, x ∈ T)
    (hm : ∀ i ∈ V.vs, 1 ≤ V.m i) (hB : 0 ≤ I.budget) :
    MES.run (expandV V) I init order = MES.run V I init order ∧
      MES.runAll (expandV V) I init order = MES.runAll V I init order :=
  MES.run_copies (MES.copies_expandV V) hm I hB init hord

theorem mes_run_copies {V V' : VCtx} {e : Nat → Nat} (h : MES.Copies V V' e) (I : Inst)
    (init : List Pid) (order : List Pid → Except Err (List Pid))
    (hord : ∀ T l, order T = .ok l → ∀ x ∈ l, x ∈ T) (hm : ∀ i ∈ V.vs, 1 ≤ V.m i) :
    (0 ≤ I.budget → MES.run V' I init order = MES.run V I init order ∧
        MES.runAll V' I init order = MES.runAll V I init order) ∧
      (∀ b0, 0 ≤ b0 → MES.runAt V' I init order b0 = MES.runAt V I init order b0 ∧
        MES.runAllAt V' I init order b0 = MES.runAllAt V I init order b0) ∧
      (∀ inc f b0 prev, 0 ≤ inc → 0 ≤ b0 →
        MES.iterated V' I init order inc f b0 prev = MES.iterated V I init order inc f b0 prev) ∧
      (∀ inc f b0 prev, 0 ≤ inc → 0 ≤ b0 →
        MES.iteratedAll V' I init order inc f b0 prev =
          MES.iteratedAll V I init order inc f b0 prev) :=
  ⟨fun hB => MES.run_copies h hm I hB init hord,
   fun _ hb0 => MES.runAt_copies h hm I init hord hb0,
   fun _ f b0 prev hinc hb0 => (MES.iterated_copies h hm I init hord hinc f b0 hb0).1 prev,
   fun _ f b0 prev hinc hb0 => (MES.iterated_copies h hm I init hord hinc f b0 hb0).2 prev⟩

/-- Equal Shares on a profile: the list profile `P.expand` and the multiprofile `P` give the
    same outcome (or the same error) — every measure `μ`, every shipped tie-breaking rule
    (which is handed the respective profile's approval scores), resolute and irresolute -/
theorem mes_profile (μ : Measure) (I : Inst) (P : Profile) (init : List Pid) (t : Tie)
    (hm : ∀ e ∈ P, 1 ≤ e.2) (hB : 0 ≤ I.budget) :
    MES.run (VCtx.ofProfile μ I P.expand) I init (t.order I.cost P.expand.approvalScore) =
        MES.run (VCtx.ofProfile μ I P) I init (t.order I.cost P.approvalScore) ∧
      MES.runAll (VCtx.ofProfile μ I P.expand) I init (t.order I.cost P.expand.approvalScore) =
        MES.runAll (VCtx.ofProfile μ I P) I init (t.order I.cost P.approvalScore) := by
  rw [tieOrder_expand]
  exact MES.run_copies (MES.copies_ofProfile μ I P) (VCtx.ofProfile_mult hm) I hB init
    (t.order_mem I.cost _)

/-- the iterated variants on a profile (budget increment `inc ≥ 0`, any fuel) -/
theorem mes_profile_iterated (μ : Measure) (I : Inst) (P : Profile) (init : List Pid) (t : Tie)
    (hm : ∀ e ∈ P, 1 ≤ e.2) (inc : Rat) (hinc : 0 ≤ inc) (f : Nat) (b0 : Rat) (hb0 : 0 ≤ b0) :
    (∀ prev, MES.iterated (VCtx.ofProfile μ I P.expand) I init
        (t.order I.cost P.expand.approvalScore) inc f b0 prev =
      MES.iterated (VCtx.ofProfile μ I P) I init (t.order I.cost P.approvalScore) inc f b0 prev) ∧
    (∀ prev, MES.iteratedAll (VCtx.ofProfile μ I P.expand) I init
        (t.order I.cost P.expand.approvalScore) inc f b0 prev =
      MES.iteratedAll (VCtx.ofProfile μ I P) I init (t.order I.cost P.approvalScore) inc f b0 prev) := by
  rw [tieOrder_expand]
  exact MES.iterated_copies (MES.copies_ofProfile μ I P) (VCtx.ofProfile_mult hm) I init
    (t.order_mem I.cost _) hinc f b0 hb0

/-- the number of voters (the divisor of the initial budget) is the same -/
theorem mes_numVoters (μ : Measure) (I : Inst) (P : Profile) :
    MES.numVoters (VCtx.ofProfile μ I P.expand) = MES.numVoters (VCtx.ofProfile μ I P) ∧
      MES.numVoters (expandV (VCtx.ofProfile μ I P)) = MES.numVoters (VCtx.ofProfile μ I P) :=
  ⟨MES.numVoters_copies (MES.copies_ofProfile μ I P), MES.numVoters_copies (MES.copies_expandV _)⟩

/-! ### Sequential Phragmén -/

theorem phragmen_stateCopies_expand (C : Phragmen.Ctx) (s : Phragmen.State) :
    Phragmen.StateCopies (Phragmen.expandC C) (entryIn C.m C.vs) s (Phragmen.expandState C s) :=
  ⟨Phragmen.loadCopies_expand C s.load, rfl, rfl, rfl⟩

theorem phragmen_newMax_expand (C : Phragmen.Ctx) (s : Phragmen.State) (p : Pid) :
    Phragmen.score (Phragmen.expandC C) p = Phragmen.score C p ∧
      sumOver (Phragmen.supporters (Phragmen.expandC C) p)
          (fun c => ((Phragmen.expandC C).m c : Rat) * (Phragmen.expandState C s).load c) =
        sumOver (Phragmen.supporters C p) (fun i => (C.m i : Rat) * s.load i) ∧
      Phragmen.newMax (Phragmen.expandC C) (Phragmen.expandState C s) p = Phragmen.newMax C s p :=
  ⟨Phragmen.score_copies (Phragmen.copies_expandC C) p,
   Phragmen.loadSum_copies (Phragmen.copies_expandC C) (Phragmen.loadCopies_expand C s.load) p,
   Phragmen.newMax_copies (Phragmen.copies_expandC C) (phragmen_stateCopies_expand C s) p⟩

theorem phragmen_round_expand (C : Phragmen.Ctx) (s : Phragmen.State) (t : Pid) :
    Phragmen.tied (Phragmen.expandC C) (Phragmen.expandState C s) = Phragmen.tied C s ∧
      Phragmen.buy (Phragmen.expandC C) (Phragmen.expandState C s) t =
        Phragmen.expandState C (Phragmen.buy C s t) :=
  ⟨Phragmen.tied_copies (Phragmen.copies_expandC C) (phragmen_stateCopies_expand C s),
    Phragmen.buy_expand C s t⟩

/-- ANY order function, no hypothesis on the multiplicities -/
theorem phragmen_multi_eq_expand (C : Phragmen.Ctx) (ord : List Pid → List Pid) (n : Nat)
    (s : Phragmen.State) :
    (Phragmen.rule (Phragmen.expandC C)).runP ord n (Phragmen.expandState C s) =
        (Phragmen.rule C).runP ord n s ∧
      (Phragmen.rule (Phragmen.expandC C)).runAllP n (Phragmen.expandState C s) =
        (Phragmen.rule C).runAllP n s :=
  ⟨(Phragmen.inStep (Phragmen.copies_expandC C)).runP ord (fun _ _ _ => trivial) n _ _
     (phragmen_stateCopies_expand C s),
   (Phragmen.inStep (Phragmen.copies_expandC C)).runAllP (fun _ _ _ => trivial) n _ _
     (phragmen_stateCopies_expand C s)⟩

/-- the runs the driver executes (`sequential_phragmen`, outcome or error) -/
theorem phragmen_run_expand (C : Phragmen.Ctx) (projects init : List Pid) (loads : Nat → Rat)
    (order : List Pid → Except Err (List Pid)) :
    Phragmen.run (Phragmen.expandC C) projects init (Phragmen.expandLoad C loads) order =
        Phragmen.run C projects init loads order ∧
      Phragmen.runAll (Phragmen.expandC C) projects init (Phragmen.expandLoad C loads) order =
        Phragmen.runAll C projects init loads order :=
  Phragmen.run_copies (Phragmen.copies_expandC C) projects init
    (Phragmen.loadCopies_expand C loads) order

/-- Phragmén on a profile: list profile and multiprofile give the same outcome (or error) for
    every shipped tie-breaking rule, when every voter starts with the load of its entry
    (in particular with the default initial load 0) -/
theorem phragmen_profile (I : Inst) (P : Profile) (init : List Pid) (t : Tie)
    (loads loads' : Nat → Rat) (hl : ∀ c, c < P.expand.length → loads' c = loads (P.entryOf c)) :
    Phragmen.run (Phragmen.Ctx.ofProfile I P.expand) I.projects init loads'
        (t.order I.cost P.expand.approvalScore) =
      Phragmen.run (Phragmen.Ctx.ofProfile I P) I.projects init loads
        (t.order I.cost P.approvalScore) ∧
    Phragmen.runAll (Phragmen.Ctx.ofProfile I P.expand) I.projects init loads'
        (t.order I.cost P.expand.approvalScore) =
      Phragmen.runAll (Phragmen.Ctx.ofProfile I P) I.projects init loads
        (t.order I.cost P.approvalScore) := by
  rw [tieOrder_expand]
  have hl' : Phragmen.LoadCopies (Phragmen.Ctx.ofProfile I P.expand) P.entryOf loads loads' :=
    fun c hc => hl c (List.mem_range.mp hc)
  exact Phragmen.run_copies (Phragmen.copies_ofProfile I P) I.projects init hl' _

/-! ### Greedy and the welfare maximiser -/

/-- the total-satisfaction function of `P.expand` IS the one of `P`,
    so every greedy run (general path; resolute and irresolute; any tie-breaking) is literally
    the same -/
theorem greedy_multi_eq_expand (μ : Measure) (I : Inst) (P : Profile) (init : List Pid)
    (order : List Pid → Except Err (List Pid)) :
    totalSatOf μ I P.expand = totalSatOf μ I P ∧
      Greedy.general (totalSatOf μ I P.expand) I init order =
        Greedy.general (totalSatOf μ I P) I init order ∧
      Greedy.generalAll (totalSatOf μ I P.expand) I init order =
        Greedy.generalAll (totalSatOf μ I P) I init order := by
  rw [totalSatOf_expand]; exact ⟨rfl, rfl, rfl⟩

theorem greedy_additive_expand (μ : Measure) (I : Inst) (P : Profile) (init : List Pid)
    (order : List Pid → Except Err (List Pid)) :
    profitOf μ I P.expand = profitOf μ I P ∧
      Greedy.additive (profitOf μ I P.expand) I init order =
        Greedy.additive (profitOf μ I P) I init order := by
  rw [profitOf_expand]; exact ⟨rfl, rfl⟩

theorem greedy_profile (μ : Measure) (I : Inst) (P : Profile) (init : List Pid) (t : Tie) :
    Greedy.general (totalSatOf μ I P.expand) I init (t.order I.cost P.expand.approvalScore) =
        Greedy.general (totalSatOf μ I P) I init (t.order I.cost P.approvalScore) ∧
      Greedy.generalAll (totalSatOf μ I P.expand) I init (t.order I.cost P.expand.approvalScore) =
        Greedy.generalAll (totalSatOf μ I P) I init (t.order I.cost P.approvalScore) ∧
      Greedy.additive (profitOf μ I P.expand) I init (t.order I.cost P.expand.approvalScore) =
        Greedy.additive (profitOf μ I P) I init (t.order I.cost P.approvalScore) := by
  rw [tieOrder_expand, totalSatOf_expand, profitOf_expand]; exact ⟨rfl, rfl, rfl⟩

/-- the welfare maximiser sees the same profit function -/
theorem welfare_expand (μ : Measure) (I : Inst) (P : Profile) (init enum : List Pid) :
    MaxWelfare.primalDual I (profitOf μ I P.expand) init enum =
        MaxWelfare.primalDual I (profitOf μ I P) init enum ∧
      MaxWelfare.optValue I (profitOf μ I P.expand) init = MaxWelfare.optValue I (profitOf μ I P) init ∧
      MaxWelfare.allOptima I (profitOf μ I P.expand) init = MaxWelfare.allOptima I (profitOf μ I P) init := by
  rw [profitOf_expand]; exact ⟨rfl, rfl, rfl⟩

/-- the project scores written over voter contexts, as the driver computes them -/
theorem score_ctx_expand (μ : Measure) (I : Inst) (P : Profile) :
    VCtx.score (VCtx.ofProfile μ I P.expand) = VCtx.score (VCtx.ofProfile μ I P) ∧
      VCtx.score (expandV (VCtx.ofProfile μ I P)) = VCtx.score (VCtx.ofProfile μ I P) :=
  ⟨MES.score_copies (MES.copies_ofProfile μ I P), MES.score_copies (MES.copies_expandV _)⟩

/-! ### Non-vacuity: a multiplicity-3 entry that gets capped -/

/-- two entries: three voters approving {0,1} and one voter approving {1} -/
def exP : Profile := [(.app [0, 1], 3), (.app [1], 1)]
def exI : Inst := { projects := [0, 1], cost := fun p => if p = 0 then 3 else 9 / 2, budget := 8 }
def exV : VCtx := VCtx.ofProfile .cardinality exI exP

/-- budgets after project 0 was bought at price 1: the three copies hold 1 each, the single voter 2 -/
def exB : Nat → Rat := fun i => if i = 0 then 1 else 2

/-- hypotheses of the theorems hold on the example -/
example : (∀ e ∈ exP, 1 ≤ e.2) ∧ 0 ≤ exI.budget ∧ (∀ i ∈ exV.vs, 1 ≤ exV.m i) ∧
    (∀ i ∈ exV.vs, 0 ≤ exB i) ∧ 0 < exI.cost 1 := by
  refine ⟨by decide, by decide +kernel, VCtx.ofProfile_mult (by decide), ?_, by decide +kernel⟩
  intro i _
  unfold exB
  by_cases h : i = 0
  · rw [if_pos h]; decide +kernel
  · rw [if_neg h]; decide +kernel

/-- the list profile has four voters; the voter contexts have 4 resp. 2 entries -/
example : exP.expand = [(.app [0, 1], 1), (.app [0, 1], 1), (.app [0, 1], 1), (.app [1], 1)] ∧
    (expandV exV).vs = [0, 1, 2, 3] ∧ (VCtx.ofProfile .cardinality exI exP.expand).vs = [0, 1, 2, 3] ∧
    exV.vs = [0, 1] ∧ (List.range 4).map exP.entryOf = [0, 0, 0, 1] := by decide +kernel

/-- price of project 1 (cost 9/2) under budgets 1,1,1 | 2: the multiplicity-3 entry is capped
    (each copy pays all of its 1 < ρ·u = 3/2), the single voter pays 3/2; same price on the
    entries, on `expandV`, and on the context of the list profile -/
example : MES.rho exV exI.cost exB 1 = some (3 / 2) ∧
    MES.rho (expandV exV) exI.cost (expandBudget exV exB) 1 = some (3 / 2) ∧
    MES.rho (VCtx.ofProfile .cardinality exI exP.expand) exI.cost (fun c => exB (exP.entryOf c)) 1
      = some (3 / 2) ∧
    MES.pay exV exB 1 (3 / 2) 0 = 1 ∧ MES.pay exV exB 1 (3 / 2) 1 = 3 / 2 ∧
    (List.range 4).map (MES.pay (expandV exV) (expandBudget exV exB) 1 (3 / 2)) = [1, 1, 1, 3 / 2] := by
  decide +kernel

/-- the whole run (lexicographic tie-breaking): both select project 0 then project 1 -/
example :
    (match MES.run exV exI [] (Tie.lexico.order exI.cost exP.approvalScore) with
      | .ok W => some W | .error _ => none) = some [0, 1] ∧
    (match MES.run (VCtx.ofProfile .cardinality exI exP.expand) exI []
        (Tie.lexico.order exI.cost exP.expand.approvalScore) with
      | .ok W => some W | .error _ => none) = some [0, 1] ∧
    (match MES.run (expandV exV) exI [] (Tie.lexico.order exI.cost exP.approvalScore) with
      | .ok W => some W | .error _ => none) = some [0, 1] := by decide +kernel

/-- the recorded run on the multiprofile shows the capping: after the second purchase the
    multiplicity-3 entry holds 0 -/
example :
    (match MES.trace exV exI.cost (Tie.lexico.order exI.cost exP.approvalScore)
        (MES.initPool exV exI []).length (MES.initState exV exI [] (exI.budget / (MES.numVoters exV : Nat))) with
      | .error _ => none
      | .ok L => some (L.map (fun it => (it.before, it.selected, it.rho, it.after)))) =
    some [([2, 2], some 0, some 1, [1, 2]),
          ([1, 2], some 1, some (3 / 2), [0, 1 / 2]),
          ([0, 1 / 2], none, none, [])] := by decide +kernel

/-- Phragmén and greedy on the same example -/
example :
    (match Phragmen.run (Phragmen.Ctx.ofProfile exI exP.expand) exI.projects [] (fun _ => 0)
        (Tie.lexico.order exI.cost exP.expand.approvalScore) with
      | .ok W => some W | .error _ => none) =
    (match Phragmen.run (Phragmen.Ctx.ofProfile exI exP) exI.projects [] (fun _ => 0)
        (Tie.lexico.order exI.cost exP.approvalScore) with
      | .ok W => some W | .error _ => none) ∧
    (match Phragmen.run (Phragmen.Ctx.ofProfile exI exP) exI.projects [] (fun _ => 0)
        (Tie.lexico.order exI.cost exP.approvalScore) with
      | .ok W => some W | .error _ => none) = some [0, 1] ∧
    totalSatOf .effort exI exP.expand [0, 1] = 15 / 2 ∧ totalSatOf .effort exI exP [0, 1] = 15 / 2 := by
  decide +kernel

end Pabu.C06
