/-
  C14 — the proportionality checkers decide their definitions, and the definitions form the known lattice
  core ⇒ EJR ⇒ PJR,  strong ⇒ plain ⇒ up-to-any ⇒ up-to-one.
  "Equal Shares satisfies EJR up to one / any" is written down here for an arbitrary tie-breaking function
  (`mes_EJR_x_FullStatement`); in that generality it is false, and Properties/C14Mes.lean refutes it
  (`mes_EJR_x_needs_order`) and proves it under two hypotheses on the tie-breaking function (`mes_EJR_x`).
-/
import PabuProofs.Lemmas.JR
import PabuModel.MES
namespace Pabu.JR
open List

/-- every one of the ten checkers (core / strong-EJR / EJR / PJR with the `up_to_func` variants, approval
    and cardinal), run on entries (ballot, multiplicity), answers as the definition over all groups of
    individual voters of the expanded profile -/
theorem checker_eq_definition' (E : Setting) (M : List (Voter × Nat)) (card : Bool) (k : Kind) (up : UpTo) (W : List Pid)
    (hB : 0 ≤ E.budget) (hpos : ∀ e ∈ M, 1 ≤ e.2) :
    checker E M card k up W = definition E M card k up W :=
  checker_eq_definition E M card k up W hB hpos

theorem checker_decides (E : Setting) (M : List (Voter × Nat)) (card : Bool) (k : Kind) (up : UpTo) (W : List Pid)
    (hB : 0 ≤ E.budget) (hpos : ∀ e ∈ M, 1 ≤ e.2) :
    checker E M card k up W = true ↔ Satisfies E (expand M) card k up W :=
  checker_iff_satisfies E M card k up W hB hpos

/-- two entry lists with the same expanded voter list (the same voters in the same order) get the same answer:
    a Profile and its MultiProfile when equal ballots stand next to each other in the Profile -/
theorem checker_profile_eq_multiprofile (E : Setting) (M M' : List (Voter × Nat)) (card : Bool) (k : Kind) (up : UpTo)
    (W : List Pid) (hB : 0 ≤ E.budget) (hpos : ∀ e ∈ M, 1 ≤ e.2) (hpos' : ∀ e ∈ M', 1 ≤ e.2)
    (h : expand M = expand M') : checker E M card k up W = checker E M' card k up W := by
  rw [checker_eq_definition E M card k up W hB hpos, checker_eq_definition E M' card k up W hB hpos']
  unfold definition
  rw [h]

theorem core_imp_EJR (E : Setting) (V : List Voter) (card : Bool) (up : UpTo) (W : List Pid)
    (h : Satisfies E V card .core up W) : Satisfies E V card .ejr up W := by
  intro S hS T hT ha
  obtain ⟨hl, hne, _, _⟩ := ha
  obtain ⟨v, hv, hok⟩ := h S hS T hT ⟨hl, hne⟩
  refine ⟨v, hv, le_trans ?_ hok⟩
  show (if card = true then sumOver T (minOver S) else satV v T) ≤ satV v T
  split
  · exact sumOver_mono fun p _ => minOver_le S v hv p
  · exact le_refl _

theorem strong_imp_plain (E : Setting) (V : List Voter) (card : Bool) (up : UpTo) (W : List Pid)
    (h : Satisfies E V card .strong up W) : Satisfies E V card .ejr .none W := by
  intro S hS T hT ha
  obtain ⟨v, hv⟩ := List.exists_mem_of_ne_nil S ha.2.1
  exact ⟨v, hv, h S hS T hT ha v hv⟩

theorem plain_imp_any (E : Setting) (V : List Voter) (card : Bool) (k : Kind) (W : List Pid)
    (hu : ∀ v ∈ V, ∀ p, 0 ≤ v.u p) (hfull : ∀ p, 0 ≤ E.full p)
    (h : Satisfies E V card k .none W) : Satisfies E V card k .any W := by
  intro S hS T hT ha
  have hS' : ∀ v ∈ S, ∀ p, 0 ≤ v.u p := fun v hv => hu v (hS.subset hv)
  exact goodP_mono E card k .none .any W S T
    (fun v hv => surplus_none_le_any _ (List.forall_mem_map.mpr fun p _ => hS' v hv p))
    (surplus_none_le_any _ (List.forall_mem_map.mpr fun p _ => maxOver_nonneg S p fun v hv => hS' v hv p))
    (surplus_none_le_any _ (List.forall_mem_map.mpr fun p _ => hfull p))
    (h S hS T hT ha)

theorem any_imp_one (E : Setting) (V : List Voter) (card : Bool) (k : Kind) (W : List Pid)
    (h : Satisfies E V card k .any W) : Satisfies E V card k .one W := by
  intro S hS T hT ha
  exact goodP_mono E card k .any .one W S T (fun _ _ => surplus_any_le_one _) (surplus_any_le_one _) (surplus_any_le_one _)
    (h S hS T hT ha)

/-- approval ballots under a measure whose per-project value does not depend on the voter (Cost_Sat, Cardinality_Sat) -/
theorem EJR_imp_PJR (E : Setting) (V : List Voter) (up : UpTo) (W : List Pid)
    (hu : ∀ v ∈ V, ∀ p, v.u p = if v.app p = true then E.full p else 0) (hfull : ∀ p, 0 ≤ E.full p)
    (h : Satisfies E V false .ejr up W) : Satisfies E V false .pjr up W := by
  intro S hS T hT ha
  obtain ⟨v, hv, hok⟩ := h S hS T hT ha
  have hun := ha.2.2.2.resolve_left Bool.false_ne_true
  have huv := hu v (hS.subset hv)
  have huT : ∀ p ∈ T, v.u p = E.full p := fun p hp => by rw [huv p, if_pos (hun v hv p hp)]
  rw [goodP_pjr_app]
  calc sumOver T E.full
      = satV v T := (sumOver_congr huT).symm
    _ ≤ satV v W + surplus up ((missing W T).map v.u) := hok
    _ = satV v W + surplus up ((missing W T).map E.full) := by
      rw [List.map_congr_left (l := missing W T) fun p hp => huT p (List.mem_of_mem_filter hp)]
    _ ≤ _ := add_le_add (satV_le_groupApproved E.full hfull S v hv huv W) (le_refl _)

theorem EJR_imp_PJR_cardinal (E : Setting) (V : List Voter) (up : UpTo) (W : List Pid)
    (h : Satisfies E V true .ejr up W) : Satisfies E V true .pjr up W := by
  intro S hS T hT ha
  obtain ⟨v, hv, hok⟩ := h S hS T hT ha
  rw [goodP_pjr_card]
  exact le_trans hok (add_le_add (sumOver_mono fun p _ => le_maxOver S v hv p)
    (surplus_map_mono up _ _ _ fun p _ => le_maxOver S v hv p))

/-- cardinal EJR quantifies over all score vectors α the group can claim (every member scores `p ∈ T` at least
    `α p`); checking the pointwise-largest one, `α = min over the group`, as the library does, decides it -/
theorem alpha_max_suffices (E : Setting) (V : List Voter) (up : UpTo) (W : List Pid) :
    Satisfies E V true .ejr up W ↔
      ∀ S, S <+ V → ∀ T, T <+ E.projects → ∀ α : Pid → Rat, Large E S T → S ≠ [] → T ≠ [] →
        (∀ v ∈ S, ∀ p ∈ T, α p ≤ v.u p) →
        ∃ v ∈ S, sumOver T α ≤ satV v W + surplus up ((missing W T).map v.u) := by
  constructor
  · intro h S hS T hT α hl hne hT0 hα
    obtain ⟨v, hv, hok⟩ := h S hS T hT ⟨hl, hne, hT0, Or.inl rfl⟩
    exact ⟨v, hv, le_trans (sumOver_mono fun p hp => le_minOver S hne p (α p) fun v hv => hα v hv p hp) hok⟩
  · intro h S hS T hT ⟨hl, hne, hT0, _⟩
    exact h S hS T hT (minOver S) hl hne hT0 fun v hv p _ => minOver_le S v hv p

theorem checker_lattice (E : Setting) (M : List (Voter × Nat)) (card : Bool) (W : List Pid)
    (hB : 0 ≤ E.budget) (hpos : ∀ e ∈ M, 1 ≤ e.2)
    (hu : ∀ v ∈ expand M, ∀ p, 0 ≤ v.u p) (hfull : ∀ p, 0 ≤ E.full p) (k : Kind) :
    (checker E M card k .none W = true → checker E M card k .any W = true) ∧
    (checker E M card k .any W = true → checker E M card k .one W = true) ∧
    (checker E M card .core .none W = true → checker E M card .ejr .none W = true) ∧
    (checker E M card .strong .none W = true → checker E M card .ejr .none W = true) := by
  simp only [checker_iff_satisfies E M card _ _ W hB hpos]
  exact ⟨plain_imp_any E _ card k W hu hfull, any_imp_one E _ card k W, core_imp_EJR E _ card .none W,
    strong_imp_plain E _ card .none W⟩

/-! ### Equal Shares: the claim for an arbitrary tie-breaking function (refuted, and proved with two more hypotheses, in C14Mes) -/

/-- the voters of an approval profile under `Cost_Sat` (`byCost = true`) or `Cardinality_Sat` -/
def approvalVoters (cost : Pid → Rat) (byCost : Bool) (P : List ((Pid → Bool) × Nat)) : List (Voter × Nat) :=
  P.map (fun e => ({ app := e.1, u := fun p => if e.1 p = true then (if byCost then cost p else 1) else 0 }, e.2))

def mesVCtx (cost : Pid → Rat) (byCost : Bool) (P : List ((Pid → Bool) × Nat)) : VCtx :=
  { vs := List.range P.length, m := fun i => (P[i]?.map Prod.snd).getD 0,
    u := fun i p => match P[i]? with
      | some e => if e.1 p = true then (if byCost then cost p else 1) else 0
      | none => 0 }

def settingOf (I : Inst) (byCost : Bool) (P : List ((Pid → Bool) × Nat)) : Setting :=
  { n := sumNat P (fun e => e.2), budget := I.budget, cost := I.cost, projects := I.projects,
    full := fun p => if byCost then I.cost p else 1 }

/-- the claim "Equal Shares with cost satisfaction satisfies EJR up to any project, with cardinality satisfaction
    EJR up to one project" for positive costs, positive budget, at least one voter and ANY tie-breaking function
    `order`.  False as it stands (`mes_EJR_x_needs_order`); true when `order` returns a non-empty list of tied
    projects (`mes_EJR_x`). -/
def mes_EJR_x_FullStatement : Prop :=
  ∀ (I : Inst) (P : List ((Pid → Bool) × Nat)) (order : List Pid → Except Err (List Pid)) (W : List Pid) (byCost : Bool),
    (∀ p ∈ I.projects, 0 < I.cost p) → 0 < I.budget → I.projects.Nodup → (∀ e ∈ P, 1 ≤ e.2) → P ≠ [] →
    MES.run (mesVCtx I.cost byCost P) I [] order = .ok W →
    Satisfies (settingOf I byCost P) (expand (approvalVoters I.cost byCost P)) false .ejr
      (if byCost then .any else .one) W

/-! ### the hypotheses of `checker_decides` are satisfiable: three voters, two of them (one entry of multiplicity 2) agree on project 0 -/

def exSetting : Setting :=
  { n := 3, budget := 3, cost := fun p => if p = 0 then 2 else 1, projects := [0, 1], full := fun p => if p = 0 then 2 else 1 }

def exA : Voter := { app := fun p => p = 0, u := fun p => if p = 0 then 2 else 0 }
def exB : Voter := { app := fun p => p = 1, u := fun p => if p = 1 then 1 else 0 }

def exM : List (Voter × Nat) := [(exA, 2), (exB, 1)]

example : 0 ≤ exSetting.budget ∧ (∀ e ∈ exM, 1 ≤ e.2) := by decide

/-- the entry (exA, 2) is `{0}`-cohesive (2·3 ≤ 2·3) and (exB, 1) is `{1}`-cohesive (1·3 ≤ 1·3), so EJR fails for `[0]` and holds for `[0, 1]` -/
theorem ex_checker_values :
    checker exSetting exM false .ejr .none [0] = false ∧ checker exSetting exM false .ejr .none [0, 1] = true := by
  constructor <;> decide +kernel

theorem ex_not_satisfies : ¬ Satisfies exSetting (expand exM) false .ejr .none [0] := fun h =>
  Bool.false_ne_true (ex_checker_values.1.symm.trans ((checker_decides _ _ _ _ _ _ (by decide) (by decide)).mpr h))

theorem ex_satisfies : Satisfies exSetting (expand exM) false .ejr .none [0, 1] :=
  (checker_decides _ _ _ _ _ _ (by decide) (by decide)).mp ex_checker_values.2

end Pabu.JR
