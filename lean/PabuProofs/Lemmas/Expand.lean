/-
  Lemmas for C06 (profiles and multiprofiles are interchangeable) on the model:
  an entry with multiplicity `m` behaves exactly like `m` identical voters of multiplicity 1.
  Sums over `P.expand` are sums over `P` weighted by multiplicity, which settles the counts, the
  measures and the greedy / welfare scores.  For Equal Shares and Phragmén the voters of one
  context are copies of the entries of the other (`Copies`), the two rules stay in step
  (`Expand.InStep`), hence all runs agree.
-/
import PabuModel.Expand
import PabuProofs.Lemmas.MES
import PabuProofs.Lemmas.InStep
namespace Pabu
open Expand

/-! ### Profiles: counts, scores, measures -/

theorem expand_cons (e : Ballot × Nat) (P : Profile) :
    Profile.expand (e :: P) = List.replicate e.2 (e.1, 1) ++ Profile.expand P := rfl

theorem mem_expand {P : Profile} {b : Ballot} {k : Nat} :
    (b, k) ∈ P.expand ↔ k = 1 ∧ ∃ m, (b, m) ∈ P ∧ 0 < m := by
  unfold Profile.expand
  rw [List.mem_flatMap]
  constructor
  · rintro ⟨a, ha, h⟩
    obtain ⟨h1, h2⟩ := List.mem_replicate.mp h
    cases h2
    exact ⟨rfl, a.2, ha, Nat.pos_of_ne_zero h1⟩
  · rintro ⟨rfl, m, hm, hpos⟩
    exact ⟨(b, m), hm, List.mem_replicate.mpr ⟨Nat.pos_iff_ne_zero.mp hpos, rfl⟩⟩

theorem expand_mult_one (P : Profile) : ∀ e ∈ P.expand, e.2 = 1 :=
  fun _ he => (mem_expand.mp he).1

theorem sumNat_expand (P : Profile) (f : Ballot × Nat → Nat) :
    sumNat P.expand f = sumNat P fun e => e.2 * f (e.1, 1) :=
  sumNat_flatMap_replicate _ _ f P

theorem sumOver_expand (P : Profile) (f : Ballot × Nat → Rat) :
    sumOver P.expand f = sumOver P fun e => (e.2 : Rat) * f (e.1, 1) :=
  sumOver_flatMap_replicate _ _ f P

theorem numBallots_expand (P : Profile) : P.expand.numBallots = P.numBallots :=
  (sumNat_expand P _).trans (sumNat_congr fun _ _ => Nat.mul_one _)

theorem length_expand (P : Profile) : P.expand.length = P.numBallots := by
  induction P with
  | nil => rfl
  | cons e P ih =>
    rw [expand_cons, List.length_append, List.length_replicate, ih]; rfl

theorem approvalScore_expand (P : Profile) (p : Pid) :
    P.expand.approvalScore p = P.approvalScore p :=
  (sumNat_expand P _).trans (sumNat_congr fun _ _ => by rw [mul_ite, mul_one, mul_zero])

theorem approvalScore_expand_fun (P : Profile) : P.expand.approvalScore = P.approvalScore :=
  funext (approvalScore_expand P)

theorem effortDenominator_expand (P : Profile) (p : Pid) :
    effortDenominator P.expand p = effortDenominator P p := approvalScore_expand P p

/-- the only measure that looks at the profile is `effort`, through the number of approvers -/
theorem satProject_expand (μ : Measure) (I : Inst) (P : Profile) (b : Ballot) (p : Pid) :
    satProject μ I P.expand b p = satProject μ I P b p := by
  unfold satProject
  rw [effortDenominator_expand]

theorem sat_expand (μ : Measure) (I : Inst) (P : Profile) (b : Ballot) (l : List Pid) :
    sat μ I P.expand b l = sat μ I P b l := by
  unfold sat
  rw [funext₂ (satProject_expand μ I P)]

theorem totalSat_expand_indep (f : Ballot → Rat) (P : Profile) :
    sumOver P.expand (fun e => ((e.2 : Nat) : Rat) * f e.1) =
      sumOver P (fun e => ((e.2 : Nat) : Rat) * f e.1) :=
  (sumOver_expand P _).trans (sumOver_congr fun _ _ => by rw [Nat.cast_one, one_mul])

theorem totalSatOf_expand (μ : Measure) (I : Inst) (P : Profile) :
    totalSatOf μ I P.expand = totalSatOf μ I P := by
  funext l
  simp only [totalSatOf, sat_expand]
  exact totalSat_expand_indep (fun b => sat μ I P b l) P

theorem profitOf_expand (μ : Measure) (I : Inst) (P : Profile) :
    profitOf μ I P.expand = profitOf μ I P := by
  funext p
  simp only [profitOf, satProject_expand]
  exact totalSat_expand_indep (fun b => satProject μ I P b p) P

/-! ### Supporter lists: sums, well-formedness, sortedness, the price -/

theorem paySum_expandSups (r : Rat) (l : List Sup) : paySum r (expandSups l) = paySum r l := by
  rw [paySum_eq_sumOver, paySum_eq_sumOver, expandSups, sumOver_flatMap_replicate]
  exact sumOver_congr fun _ _ => by rw [Nat.cast_one, one_mul]

theorem budSum_expandSups (l : List Sup) : budSum (expandSups l) = budSum l := by
  rw [budSum_eq_sumOver, budSum_eq_sumOver, expandSups, sumOver_flatMap_replicate]
  exact sumOver_congr fun _ _ => by rw [Nat.cast_one, one_mul]

theorem utilSum_expandSups (l : List Sup) : utilSum (expandSups l) = utilSum l := by
  rw [utilSum_eq_sumOver, utilSum_eq_sumOver, expandSups, sumOver_flatMap_replicate]
  exact sumOver_congr fun _ _ => by rw [Nat.cast_one, one_mul]

theorem mem_expandSups {l : List Sup} {t : Sup} :
    t ∈ expandSups l ↔ ∃ s ∈ l, s.m ≠ 0 ∧ t = { s with m := 1 } := by
  simp only [expandSups, List.mem_flatMap, List.mem_replicate]

theorem expandSups_wf {l : List Sup} (hw : ∀ s ∈ l, s.WF) : ∀ t ∈ expandSups l, t.WF := by
  intro t ht
  obtain ⟨s, hs, _, rfl⟩ := mem_expandSups.mp ht
  exact ⟨(hw s hs).1, (hw s hs).2.1, le_refl _⟩

theorem expandSups_mult_one {l : List Sup} : ∀ t ∈ expandSups l, t.m = 1 := by
  intro t ht
  obtain ⟨s, _, _, rfl⟩ := mem_expandSups.mp ht
  rfl

theorem expandSups_sorted {l : List Sup} (h : SortedRatio l) : SortedRatio (expandSups l) := by
  unfold SortedRatio expandSups at *
  rw [List.pairwise_flatMap]
  refine ⟨fun s _ => List.pairwise_replicate.mpr (Or.inr (le_refl _)), h.imp ?_⟩
  intro s t hst x hx y hy
  rw [(List.mem_replicate.mp hx).2, (List.mem_replicate.mp hy).2]
  exact hst

/-- the stable sort by `b/u` commutes with expansion up to the order of equal-ratio copies -/
theorem sorted_expandSups_perm (l : List Sup) :
    (sortLe ratioLe (expandSups l)).Perm (expandSups (sortLe ratioLe l)) :=
  (sortLe_perm _ _).trans ((sortLe_perm ratioLe l).symm.flatMap_right _)

/-- the price of a project computed on the entries (with multiplicities) is the price computed on
    the single copies -/
theorem price_expand (l : List Sup) (C : Rat) (hw : ∀ s ∈ l, s.WF) (hC : 0 < C)
    (haff : C ≤ budSum l) :
    sweep C (utilSum (expandSups l)) (sortLe ratioLe (expandSups l)) =
      sweep C (utilSum l) (sortLe ratioLe l) :=
  sweep_sorted_congr l (expandSups l) C hw (expandSups_wf hw) hC haff (budSum_expandSups l)
    (fun r => paySum_expandSups r l)

/-- the price on the copies is the least price at which the ENTRIES cover the cost -/
theorem price_expand_least (l : List Sup) (C : Rat) (hw : ∀ s ∈ l, s.WF) (hC : 0 < C)
    (haff : C ≤ budSum l) :
    ∃ r, sweep C (utilSum (expandSups l)) (sortLe ratioLe (expandSups l)) = some r ∧
      paySum r l = C ∧ 0 < r ∧ ∀ r', C ≤ paySum r' l → r ≤ r' :=
  price_expand l C hw hC haff ▸ price_least l C hw hC haff

/-! ### Copies of indexed voters -/

theorem expandIdx_cons (m : Nat → Nat) (i : Nat) (vs : List Nat) :
    expandIdx m (i :: vs) = List.replicate (m i) i ++ expandIdx m vs := rfl

theorem mem_expandIdx {m : Nat → Nat} {vs : List Nat} {i : Nat} :
    i ∈ expandIdx m vs ↔ i ∈ vs ∧ m i ≠ 0 := by
  simp only [expandIdx, List.mem_flatMap, List.mem_replicate]
  exact ⟨fun ⟨j, hj, h, e⟩ => e ▸ ⟨hj, h⟩, fun ⟨hi, h⟩ => ⟨i, hi, h, rfl⟩⟩

theorem expandIdx_map (m : Nat → Nat) (f : Nat → Nat) : ∀ l : List Nat,
    expandIdx m (l.map f) = (expandIdx (fun i => m (f i)) l).map f
  | [] => rfl
  | i :: l => by
    rw [List.map_cons, expandIdx_cons, expandIdx_cons, List.map_append, List.map_replicate,
      expandIdx_map m f l]

theorem expandIdx_filter_map {β : Type} (m : Nat → Nat) (q : Nat → Bool) (g : Nat → β) :
    ∀ vs : List Nat, ((expandIdx m vs).filter q).map g =
      (vs.filter q).flatMap (fun i => List.replicate (m i) (g i))
  | [] => rfl
  | i :: vs => by
    rw [expandIdx_cons, List.filter_append, List.map_append, expandIdx_filter_map m q g vs,
      List.filter_replicate]
    by_cases h : q i = true
    · rw [if_pos h, List.filter_cons_of_pos h, List.flatMap_cons, List.map_replicate]
    · rw [if_neg h, List.filter_cons_of_neg h]; rfl

theorem copies_filter_map {β : Type} {m : Nat → Nat} {vs vs' : List Nat} {e : Nat → Nat}
    (hperm : (vs'.map e).Perm (expandIdx m vs)) (q q' : Nat → Bool) (g g' : Nat → β)
    (hq : ∀ c ∈ vs', q' c = q (e c)) (hg : ∀ c ∈ vs', g' c = g (e c)) :
    ((vs'.filter q').map g').Perm ((vs.filter q).flatMap (fun i => List.replicate (m i) (g i))) := by
  have h : (vs'.filter q').map g' = ((vs'.map e).filter q).map g := by
    rw [List.filter_congr hq, List.filter_map, List.map_map]
    exact List.map_congr_left fun c hc => hg c (List.mem_filter.mp hc).1
  rw [h, ← expandIdx_filter_map]
  exact (hperm.filter q).map g

theorem copies_mem {m : Nat → Nat} {vs vs' : List Nat} {e : Nat → Nat}
    (hperm : (vs'.map e).Perm (expandIdx m vs)) {c : Nat} (hc : c ∈ vs') : e c ∈ vs :=
  (mem_expandIdx.mp (hperm.mem_iff.mp (List.mem_map.mpr ⟨c, hc, rfl⟩))).1

theorem copies_sumOver {m : Nat → Nat} {vs vs' : List Nat} {e : Nat → Nat}
    (hperm : (vs'.map e).Perm (expandIdx m vs)) (q q' : Nat → Bool) (g g' : Nat → Rat)
    (hq : ∀ c ∈ vs', q' c = q (e c)) (hg : ∀ c ∈ vs', g' c = g (e c)) :
    sumOver (vs'.filter q') g' = sumOver (vs.filter q) (fun i => (m i : Rat) * g i) := by
  have h := sumOver_perm (copies_filter_map hperm q q' g g' hq hg) fun x => x
  rwa [sumOver_map, sumOver_flatMap_replicate] at h

theorem copies_sumNat {m : Nat → Nat} {vs vs' : List Nat} {e : Nat → Nat}
    (hperm : (vs'.map e).Perm (expandIdx m vs)) (q q' : Nat → Bool) (g g' : Nat → Nat)
    (hq : ∀ c ∈ vs', q' c = q (e c)) (hg : ∀ c ∈ vs', g' c = g (e c)) :
    sumNat (vs'.filter q') g' = sumNat (vs.filter q) (fun i => m i * g i) := by
  have h := sumNat_perm (copies_filter_map hperm q q' g g' hq hg) fun x => x
  rwa [sumNat_map, sumNat_flatMap_replicate] at h

theorem map_range_add {β : Type} {f : Nat → β} {a : Nat} {x : β} (h : ∀ c < a, f c = x) (b : Nat) :
    (List.range (a + b)).map f = List.replicate a x ++ (List.range b).map fun c => f (a + c) := by
  rw [List.range_add, List.map_append, List.map_map,
    List.map_congr_left fun c hc => h c (List.mem_range.mp hc), List.map_const', List.length_range]
  rfl

theorem entryIn_add (m : Nat → Nat) (i : Nat) (vs : List Nat) (c : Nat) :
    entryIn m (i :: vs) (m i + c) = entryIn m vs c := by
  rw [entryIn, if_neg (Nat.not_lt.mpr (Nat.le_add_right _ _)), Nat.add_sub_cancel_left]

theorem map_entryIn (m : Nat → Nat) : ∀ vs : List Nat,
    (List.range (sumNat vs m)).map (entryIn m vs) = expandIdx m vs
  | [] => rfl
  | i :: vs => by
    rw [expandIdx_cons, ← map_entryIn m vs, sumNat_cons,
      map_range_add (f := entryIn m (i :: vs)) (x := i) fun c hc => if_pos hc]
    simp only [entryIn_add]

/-! ### Equal Shares on entries and on copies -/

namespace MES

/-- `V'` is a voter context made of single copies of the entries of `V`; `e` maps a copy to its
    entry.  Entry `i` has exactly `V.m i` copies, every copy has multiplicity 1 and the utilities
    of its entry. -/
structure Copies (V V' : VCtx) (e : Nat → Nat) : Prop where
  idx : (V'.vs.map e).Perm (expandIdx V.m V.vs)
  m_one : ∀ c ∈ V'.vs, V'.m c = 1
  u_eq : ∀ c ∈ V'.vs, ∀ p, V'.u c p = V.u (e c) p

def BudgetCopies (V' : VCtx) (e : Nat → Nat) (b b' : Nat → Rat) : Prop := ∀ c ∈ V'.vs, b' c = b (e c)

theorem copies_expandV (V : VCtx) : Copies V (expandV V) (entryIn V.m V.vs) where
  idx := List.Perm.of_eq (map_entryIn V.m V.vs)
  m_one := fun _ _ => rfl
  u_eq := fun _ _ _ => rfl

theorem budgetCopies_expand (V : VCtx) (b : Nat → Rat) :
    BudgetCopies (expandV V) (entryIn V.m V.vs) b (expandBudget V b) := fun _ _ => rfl

theorem sups_copies {V V' : VCtx} {e : Nat → Nat} (h : Copies V V' e) {b b' : Nat → Rat}
    (hb : BudgetCopies V' e b b') (p : Pid) :
    (sups V' b' p).Perm (expandSups (sups V b p)) := by
  unfold expandSups sups supporters
  rw [List.flatMap_map]
  exact copies_filter_map h.idx _ _ (fun i => (⟨b i, V.u i p, 1⟩ : Sup)) _
    (fun c hc => by rw [h.u_eq c hc p])
    (fun c hc => by rw [h.u_eq c hc p, h.m_one c hc, hb c hc])

theorem rho_copies {V V' : VCtx} {e : Nat → Nat} (h : Copies V V' e) {b b' : Nat → Rat}
    (hb : BudgetCopies V' e b b') (hok : VOK V b) {cost : Pid → Rat} {p : Pid} (hc : 0 < cost p) :
    rho V' cost b' p = rho V cost b p := by
  have hs := sups_copies h hb p
  exact rho_eq_of_sums (sups_wf hok p)
    (fun s hs' => expandSups_wf (sups_wf hok p) s (hs.mem_iff.mp hs')) hc
    ((budSum_perm hs).trans (budSum_expandSups _))
    (fun r => (paySum_perm r hs).trans (paySum_expandSups r _))

theorem totalSat_copies {V V' : VCtx} {e : Nat → Nat} (h : Copies V V' e) (p : Pid) :
    totalSat V' p = totalSat V p :=
  copies_sumOver h.idx _ _ (fun i => V.u i p) _ (fun c hc => by rw [h.u_eq c hc p])
    (fun c hc => by rw [h.m_one c hc, h.u_eq c hc p, Nat.cast_one, one_mul])

theorem numVoters_copies {V V' : VCtx} {e : Nat → Nat} (h : Copies V V' e) :
    numVoters V' = numVoters V := by
  have := copies_sumNat h.idx (fun _ => true) (fun _ => true) (fun _ => 1) V'.m
    (fun _ _ => rfl) h.m_one
  rw [List.filter_true, List.filter_true] at this
  exact this.trans (sumNat_congr fun _ _ => Nat.mul_one _)

/-- the additive score of a project (greedy fast path, welfare maximiser) -/
theorem score_copies {V V' : VCtx} {e : Nat → Nat} (h : Copies V V' e) :
    VCtx.score V' = VCtx.score V := by
  funext p
  have := copies_sumOver h.idx (fun _ => true) (fun _ => true) (fun i => V.u i p)
    (fun c => (V'.m c : Rat) * V'.u c p) (fun _ _ => rfl)
    (fun c hc => by rw [h.m_one c hc, h.u_eq c hc p, Nat.cast_one, one_mul])
  rwa [List.filter_true, List.filter_true] at this

theorem initPool_copies {V V' : VCtx} {e : Nat → Nat} (h : Copies V V' e) (I : Inst)
    (init : List Pid) : initPool V' I init = initPool V I init :=
  List.filter_congr fun p _ => by rw [totalSat_copies h p]

theorem zeroCost_copies {V V' : VCtx} {e : Nat → Nat} (h : Copies V V' e) (I : Inst)
    (init : List Pid) : zeroCost V' I init = zeroCost V I init :=
  List.filter_congr fun p _ => by rw [totalSat_copies h p]

/-! #### one round -/

/-- what is needed of a state for the price analysis: nobody overdrawn, pool costs positive -/
structure StateOK (V : VCtx) (cost : Pid → Rat) (s : State) : Prop where
  nonneg : ∀ i ∈ V.vs, 0 ≤ s.b i
  pool_pos : ∀ p ∈ s.pool, 0 < cost p

theorem buy_stateOK {V : VCtx} {cost : Pid → Rat} {s : State} (t : Pid) (h : StateOK V cost s) :
    StateOK V cost (buy V cost s t) := by
  refine ⟨fun i hi => ?_,
    fun p hp => h.pool_pos p (List.mem_filter.mp (buy_pool V cost s t ▸ hp)).1⟩
  unfold buy
  cases rho V cost s.b t with
  | none => exact h.nonneg i hi
  | some r => exact sub_nonneg.mpr (pay_le V s.b t r i (h.nonneg i hi))

structure StateCopies (V V' : VCtx) (e : Nat → Nat) (cost : Pid → Rat) (s s' : State) : Prop where
  ok : StateOK V cost s
  b : BudgetCopies V' e s.b s'.b
  pool : s'.pool = s.pool
  alloc : s'.alloc = s.alloc

theorem affordable_copies {V V' : VCtx} {e : Nat → Nat} (h : Copies V V' e)
    (hm : ∀ i ∈ V.vs, 1 ≤ V.m i) {cost : Pid → Rat} {s s' : State}
    (hs : StateCopies V V' e cost s s') : affordable V' cost s' = affordable V cost s := by
  unfold affordable
  rw [hs.pool]
  exact List.filterMap_congr fun p hp => by
    rw [rho_copies h hs.b ⟨hs.ok.nonneg, hm⟩ (hs.ok.pool_pos p hp)]

theorem best_copies {V V' : VCtx} {e : Nat → Nat} (h : Copies V V' e)
    (hm : ∀ i ∈ V.vs, 1 ≤ V.m i) {cost : Pid → Rat} {s s' : State}
    (hs : StateCopies V V' e cost s s') : best V' cost s' = best V cost s := by
  unfold best
  rw [affordable_copies h hm hs]

theorem tied_copies {V V' : VCtx} {e : Nat → Nat} (h : Copies V V' e)
    (hm : ∀ i ∈ V.vs, 1 ≤ V.m i) {cost : Pid → Rat} {s s' : State}
    (hs : StateCopies V V' e cost s s') : tied V' cost s' = tied V cost s := by
  unfold tied
  rw [best_copies h hm hs, affordable_copies h hm hs]

theorem pay_copies {V V' : VCtx} {e : Nat → Nat} (h : Copies V V' e) {b b' : Nat → Rat}
    (hb : BudgetCopies V' e b b') (t : Pid) (r : Rat) {c : Nat} (hc : c ∈ V'.vs) :
    pay V' b' t r c = pay V b t r (e c) := by
  unfold pay
  rw [h.u_eq c hc t, hb c hc]

theorem buy_copies {V V' : VCtx} {e : Nat → Nat} (h : Copies V V' e)
    (hm : ∀ i ∈ V.vs, 1 ≤ V.m i) {cost : Pid → Rat} {s s' : State}
    (hs : StateCopies V V' e cost s s') {t : Pid} (ht : t ∈ s.pool) :
    StateCopies V V' e cost (buy V cost s t) (buy V' cost s' t) := by
  have hb : BudgetCopies V' e (buy V cost s t).b (buy V' cost s' t).b ∧
      (buy V' cost s' t).alloc = (buy V cost s t).alloc := by
    unfold buy
    rw [rho_copies h hs.b ⟨hs.ok.nonneg, hm⟩ (hs.ok.pool_pos t ht)]
    cases rho V cost s.b t with
    | none => exact ⟨hs.b, hs.alloc⟩
    | some r =>
      exact ⟨fun c hc => congrArg₂ (· - ·) (hs.b c hc) (pay_copies h hs.b t r hc),
        congrArg (· ++ [t]) hs.alloc⟩
  exact ⟨buy_stateOK t hs.ok, hb.1, by rw [buy_pool, buy_pool, hs.pool], hb.2⟩

theorem inStep {V V' : VCtx} {e : Nat → Nat} (h : Copies V V' e) (hm : ∀ i ∈ V.vs, 1 ≤ V.m i)
    (cost : Pid → Rat) :
    InStep (rule V cost) (rule V' cost) (StateCopies V V' e cost) (fun T x => x ∈ T) :=
  .of_parts (fun _ _ hs => tied_copies h hm hs) (fun _ _ hs => hs.alloc)
    (fun _ _ _ hs ht => buy_copies h hm hs (tied_sub_pool ht))

theorem initState_copies {V V' : VCtx} {e : Nat → Nat} (h : Copies V V' e) (I : Inst)
    (init : List Pid) {b0 : Rat} (hb0 : 0 ≤ b0) :
    StateCopies V V' e I.cost (initState V I init b0) (initState V' I init b0) :=
  ⟨⟨fun _ _ => hb0, fun _ hp => (mem_initPool.mp hp).2.2.2⟩, fun _ _ => rfl,
    initPool_copies h I init, congrArg (init ++ ·) (zeroCost_copies h I init)⟩

/-! #### whole runs -/

theorem runAt_copies {V V' : VCtx} {e : Nat → Nat} (h : Copies V V' e) (hm : ∀ i ∈ V.vs, 1 ≤ V.m i)
    (I : Inst) (init : List Pid) {order : List Pid → Except Err (List Pid)}
    (hord : ∀ T l, order T = .ok l → ∀ x ∈ l, x ∈ T) {b0 : Rat} (hb0 : 0 ≤ b0) :
    runAt V' I init order b0 = runAt V I init order b0 ∧
      runAllAt V' I init order b0 = runAllAt V I init order b0 := by
  unfold runAt runAllAt
  rw [initPool_copies h]
  have hs := initState_copies h I init hb0
  exact ⟨(inStep h hm I.cost).run _ (orderIfTie_mem hord) _ _ _ hs,
    congrArg _ ((inStep h hm I.cost).runAll _ (orderIfTie_mem hord) _ _ _ hs)⟩

/-- `method_of_equal_shares`, resolute and irresolute -/
theorem run_copies {V V' : VCtx} {e : Nat → Nat} (h : Copies V V' e) (hm : ∀ i ∈ V.vs, 1 ≤ V.m i)
    (I : Inst) (hB : 0 ≤ I.budget) (init : List Pid) {order : List Pid → Except Err (List Pid)}
    (hord : ∀ T l, order T = .ok l → ∀ x ∈ l, x ∈ T) :
    run V' I init order = run V I init order ∧ runAll V' I init order = runAll V I init order := by
  unfold run runAll
  rw [numVoters_copies h]
  exact runAt_copies h hm I init hord (share_nonneg V I hB)

/-- the iterated variant (`voter_budget_increment`) -/
theorem iterated_copies {V V' : VCtx} {e : Nat → Nat} (h : Copies V V' e)
    (hm : ∀ i ∈ V.vs, 1 ≤ V.m i) (I : Inst) (init : List Pid)
    {order : List Pid → Except Err (List Pid)}
    (hord : ∀ T l, order T = .ok l → ∀ x ∈ l, x ∈ T) {inc : Rat} (hinc : 0 ≤ inc) :
    ∀ (f : Nat) (b0 : Rat), 0 ≤ b0 →
      (∀ prev, iterated V' I init order inc f b0 prev = iterated V I init order inc f b0 prev) ∧
      (∀ prev, iteratedAll V' I init order inc f b0 prev =
        iteratedAll V I init order inc f b0 prev) :=
  fun f b0 hb0 => iterated_congr (fun b b' => b' = b ∧ 0 ≤ b)
    (fun _ _ hb => ⟨by rw [hb.1], add_nonneg hb.2 hinc⟩)
    (fun _ _ hb => by rw [hb.1]; exact runAt_copies h hm I init hord hb.2)
    (initPool_copies h I init) (fun _ => rfl) (fun _ _ => rfl) f b0 b0 ⟨rfl, hb0⟩

end MES

/-! ### Sequential Phragmén on entries and on copies -/

namespace Phragmen

structure Copies (C C' : Ctx) (e : Nat → Nat) : Prop where
  idx : (C'.vs.map e).Perm (expandIdx C.m C.vs)
  m_one : ∀ c ∈ C'.vs, C'.m c = 1
  app_eq : ∀ c ∈ C'.vs, ∀ p, C'.app c p = C.app (e c) p
  cost_eq : C'.cost = C.cost
  budget_eq : C'.budget = C.budget

def LoadCopies (C' : Ctx) (e : Nat → Nat) (load load' : Nat → Rat) : Prop :=
  ∀ c ∈ C'.vs, load' c = load (e c)

theorem copies_expandC (C : Ctx) : Copies C (expandC C) (entryIn C.m C.vs) where
  idx := List.Perm.of_eq (map_entryIn C.m C.vs)
  m_one := fun _ _ => rfl
  app_eq := fun _ _ _ => rfl
  cost_eq := rfl
  budget_eq := rfl

theorem loadCopies_expand (C : Ctx) (load : Nat → Rat) :
    LoadCopies (expandC C) (entryIn C.m C.vs) load (expandLoad C load) := fun _ _ => rfl

theorem score_copies {C C' : Ctx} {e : Nat → Nat} (h : Copies C C' e) (p : Pid) :
    score C' p = score C p :=
  (copies_sumNat h.idx (fun i => C.app i p) _ (fun _ => 1) _ (fun c hc => h.app_eq c hc p)
    h.m_one).trans (sumNat_congr fun _ _ => Nat.mul_one _)

theorem loadSum_copies {C C' : Ctx} {e : Nat → Nat} (h : Copies C C' e) {load load' : Nat → Rat}
    (hl : LoadCopies C' e load load') (p : Pid) :
    sumOver (supporters C' p) (fun c => (C'.m c : Rat) * load' c) =
      sumOver (supporters C p) (fun i => (C.m i : Rat) * load i) :=
  copies_sumOver h.idx (fun i => C.app i p) _ load _ (fun c hc => h.app_eq c hc p)
    (fun c hc => by rw [h.m_one c hc, hl c hc, Nat.cast_one, one_mul])

structure StateCopies (C' : Ctx) (e : Nat → Nat) (s s' : State) : Prop where
  load : LoadCopies C' e s.load s'.load
  pool : s'.pool = s.pool
  alloc : s'.alloc = s.alloc
  spent : s'.spent = s.spent

theorem newMax_copies {C C' : Ctx} {e : Nat → Nat} (h : Copies C C' e) {s s' : State}
    (hs : StateCopies C' e s s') (p : Pid) : newMax C' s' p = newMax C s p := by
  unfold newMax
  rw [score_copies h p, loadSum_copies h hs.load p, h.cost_eq]

theorem tied_copies {C C' : Ctx} {e : Nat → Nat} (h : Copies C C' e) {s s' : State}
    (hs : StateCopies C' e s s') : tied C' s' = tied C s := by
  unfold tied argmin
  rw [funext (newMax_copies h hs), hs.pool, h.budget_eq, hs.spent, h.cost_eq]

theorem buy_copies {C C' : Ctx} {e : Nat → Nat} (h : Copies C C' e) {s s' : State}
    (hs : StateCopies C' e s s') (t : Pid) : StateCopies C' e (buy C s t) (buy C' s' t) where
  load := fun c hc => by
    show (if C'.app c t then _ else _) = _
    rw [h.app_eq c hc t, newMax_copies h hs t, hs.load c hc]
    rfl
  pool := congrArg (List.filter _) hs.pool
  alloc := congrArg (· ++ [t]) hs.alloc
  spent := congrArg₂ (· + ·) hs.spent (congrFun h.cost_eq t)

theorem buy_expand (C : Ctx) (s : State) (t : Pid) :
    buy (expandC C) (expandState C s) t = expandState C (buy C s t) := by
  unfold buy
  rw [newMax_copies (copies_expandC C) (s' := expandState C s)
    ⟨loadCopies_expand C s.load, rfl, rfl, rfl⟩ t]
  rfl

theorem inStep {C C' : Ctx} {e : Nat → Nat} (h : Copies C C' e) :
    InStep (rule C) (rule C') (StateCopies C' e) (fun _ _ => True) :=
  .of_parts (fun _ _ hs => tied_copies h hs) (fun _ _ hs => hs.alloc)
    (fun _ _ t hs _ => buy_copies h hs t)

theorem initState_copies {C C' : Ctx} {e : Nat → Nat} (h : Copies C C' e) (projects init : List Pid)
    {loads loads' : Nat → Rat} (hl : LoadCopies C' e loads loads') :
    StateCopies C' e (initState C projects init loads) (initState C' projects init loads') := by
  unfold initState
  rw [h.cost_eq, h.budget_eq]
  exact ⟨hl, rfl, rfl, rfl⟩

/-- `sequential_phragmen`, resolute and irresolute; ANY tie-breaking function -/
theorem run_copies {C C' : Ctx} {e : Nat → Nat} (h : Copies C C' e) (projects init : List Pid)
    {loads loads' : Nat → Rat} (hl : LoadCopies C' e loads loads')
    (order : List Pid → Except Err (List Pid)) :
    run C' projects init loads' order = run C projects init loads order ∧
      runAll C' projects init loads' order = runAll C projects init loads order := by
  unfold run runAll
  have hs := initState_copies h projects init hl
  rw [hs.pool]
  have h' := (inStep h).run_of_true order
  exact ⟨(h' _ _ _ hs).1, congrArg _ (h' _ _ _ hs).2⟩

end Phragmen

/-! ### The contexts built from a profile: voters of `P.expand` are copies of the entries of `P` -/

/-- multiplicity of position `i` of a profile (0 outside): the `m` of both contexts of a profile -/
def Profile.multAt (P : Profile) (i : Nat) : Nat := (P[i]?.map Prod.snd).getD 0

theorem VCtx.ofProfile_m (μ : Measure) (I : Inst) (P : Profile) :
    (VCtx.ofProfile μ I P).m = P.multAt := rfl

theorem Phragmen.Ctx.ofProfile_m (I : Inst) (P : Profile) :
    (Phragmen.Ctx.ofProfile I P).m = P.multAt := rfl

theorem Profile.entryOf_add (e : Ballot × Nat) (P : Profile) (c : Nat) :
    Profile.entryOf (e :: P) (e.2 + c) = Profile.entryOf P c + 1 := by
  rw [Profile.entryOf, if_neg (Nat.not_lt.mpr (Nat.le_add_right _ _)), Nat.add_sub_cancel_left]

theorem map_entryOf : ∀ P : Profile,
    (List.range P.numBallots).map P.entryOf = expandIdx P.multAt (List.range P.length)
  | [] => rfl
  | e :: P => by
    rw [List.length_cons, List.range_succ_eq_map, expandIdx_cons, expandIdx_map]
    show (List.range (e.2 + Profile.numBallots P)).map _ =
      List.replicate e.2 0 ++ (expandIdx (Profile.multAt P) _).map _
    rw [← map_entryOf P, List.map_map,
      map_range_add (f := Profile.entryOf (e :: P)) (x := 0) fun c hc => if_pos hc]
    simp only [Profile.entryOf_add]
    rfl

theorem entryOf_perm (P : Profile) :
    ((List.range P.expand.length).map P.entryOf).Perm (expandIdx P.multAt (List.range P.length)) :=
  List.Perm.of_eq (length_expand P ▸ map_entryOf P)

theorem getElem?_expand : ∀ (P : Profile) (c : Nat),
    P.expand[c]? = (P[P.entryOf c]?).map (fun e => (e.1, 1))
  | [], _ => rfl
  | e :: P, c => by
    rw [expand_cons, Profile.entryOf]
    by_cases hc : c < e.2
    · rw [if_pos hc, List.getElem?_append_left (by rwa [List.length_replicate]),
        List.getElem?_replicate, if_pos hc]
      rfl
    · rw [if_neg hc, List.getElem?_append_right (by rwa [List.length_replicate, ← Nat.not_lt]),
        List.length_replicate, List.getElem?_cons_succ]
      exact getElem?_expand P (c - e.2)

theorem multAt_expand {P : Profile} {c : Nat} (hc : c ∈ List.range P.expand.length) :
    P.expand.multAt c = 1 := by
  have hc := List.mem_range.mp hc
  unfold Profile.multAt
  rw [List.getElem?_eq_getElem hc]
  exact expand_mult_one P _ (List.getElem_mem hc)

theorem MES.copies_ofProfile (μ : Measure) (I : Inst) (P : Profile) :
    MES.Copies (VCtx.ofProfile μ I P) (VCtx.ofProfile μ I P.expand) P.entryOf where
  idx := entryOf_perm P
  m_one := fun _ hc => multAt_expand hc
  u_eq := by
    intro c _ p
    show (match P.expand[c]? with
        | some e => satProject μ I P.expand e.1 p
        | none => 0) =
      (match P[P.entryOf c]? with
        | some e => satProject μ I P e.1 p
        | none => 0)
    rw [getElem?_expand P c]
    cases P[P.entryOf c]? with
    | none => rfl
    | some e => exact satProject_expand μ I P e.1 p

theorem VCtx.ofProfile_mult {μ : Measure} {I : Inst} {P : Profile} (hm : ∀ e ∈ P, 1 ≤ e.2) :
    ∀ i ∈ (VCtx.ofProfile μ I P).vs, 1 ≤ (VCtx.ofProfile μ I P).m i := by
  intro i hi
  have hi' : i < P.length := List.mem_range.mp hi
  rw [VCtx.ofProfile_m, Profile.multAt, List.getElem?_eq_getElem hi']
  exact hm _ (List.getElem_mem hi')

theorem Phragmen.copies_ofProfile (I : Inst) (P : Profile) :
    Phragmen.Copies (Phragmen.Ctx.ofProfile I P) (Phragmen.Ctx.ofProfile I P.expand) P.entryOf where
  idx := entryOf_perm P
  m_one := fun _ hc => multAt_expand hc
  app_eq := by
    intro c _ p
    show (P.expand[c]?.map (fun e => e.1.mem p)).getD false =
      (P[P.entryOf c]?.map (fun e => e.1.mem p)).getD false
    rw [getElem?_expand P c]
    cases P[P.entryOf c]? <;> rfl
  cost_eq := rfl
  budget_eq := rfl

end Pabu
