/-
  Bridge C03 — the regenerated leaves of the greedy utilitarian rule (Gen/C03.lean, produced from the current
  source of pabutools/rules/greedywelfare/greedywelfare_rule.py on every run) against the model
  (PabuModel/Greedy.lean).  General path: marginal score per cost, the two fit tests, and the loop that rebuilds
  the list of still-fitting projects as a whole (`stillFitsLoop`).  Additive fast path: the density, the single
  pass (one iteration and the whole loop, `passLoop`) and the budget the pass starts with (`passInitialRemaining`).
-/
import Gen.C03
import PabuModel.Greedy
import Mathlib.Algebra.Order.Field.Rat
namespace Pabu.Bridge.C03

/-! ### general path -/

/-- `total_marginal_score`: `frac(sat(new_alloc) − sat(alloc), cost)` if `project.cost > 0`, else `inf` -/
theorem marginal (tsat : List Pid → Rat) (cost : Pid → Rat) (alloc : List Pid) (p : Pid) :
    Greedy.marginal tsat cost alloc p =
      if Gen.C03.hasPositiveCost (cost p) = true then
        some (Gen.C03.marginal (tsat (alloc ++ [p])) (tsat alloc) (cost p))
      else none := by
  unfold Greedy.marginal Gen.C03.hasPositiveCost Gen.C03.marginal
  simp only [gt_iff_lt, decide_eq_true_eq]

/-- `project != selected_project and new_cost + project.cost <= instance.budget_limit` -/
theorem stillFits (I : Inst) (s : Greedy.State) (t : Pid) :
    Greedy.buy I s t =
      { feasible := s.feasible.filter (fun p =>
          Gen.C03.stillFits (p == t) (costOf I.cost (s.alloc ++ [t])) (I.cost p) I.budget)
        alloc := s.alloc ++ [t] } := rfl

/-- `p not in initial_budget_allocation and initial_cost + p.cost <= instance.budget_limit` -/
theorem initiallyFits (I : Inst) (init : List Pid) :
    Greedy.initState I init =
      { feasible := (sortIds I.projects).filter (fun p =>
          Gen.C03.initiallyFits (init.contains p) (costOf I.cost init) (I.cost p) I.budget)
        alloc := init } := rfl

/-- the WHOLE loop that rebuilds the list of still-fitting projects after a purchase (statement-level leaf `Gen.C03.stillFitsLoop`,
    regenerated from `for project in feasible: if …: new_feasible.append(project)`): it is the filter by the regenerated fit test,
    appended in order to what was kept before — which is how the model's `buy` is written (`stillFits` above) -/
theorem stillFitsLoop (cost : Pid → Rat) (sel : Pid) (newCost budget : Rat) : ∀ (feas kept : List Pid),
    Gen.C03.stillFitsLoop sel newCost budget kept (feas.map (fun p => (p, cost p))) =
      kept ++ feas.filter (fun p => Gen.C03.stillFits (p == sel) newCost (cost p) budget) := by
  intro feas
  induction feas with
  | nil => exact fun kept => (List.append_nil kept).symm
  | cons p ps ih =>
    intro kept
    rw [List.map_cons, Gen.C03.stillFitsLoop, List.filter_cons]
    -- the test of the loop is the regenerated fit test, `p != sel` being `!(p == sel)`
    change (if Gen.C03.stillFits (p == sel) newCost (cost p) budget = true then _ else _) = _
    by_cases h : Gen.C03.stillFits (p == sel) newCost (cost p) budget = true
    · rw [if_pos h, if_pos h, ih, List.append_assoc]
      rfl
    · rw [if_neg h, if_neg h, ih]

/-! ### additive fast path -/

/-- `satisfaction_density`: `frac(total_sat, cost)` for supported projects (`inf` at cost 0), 0 otherwise -/
theorem density (score : Pid → Rat) (cost : Pid → Rat) (p : Pid) :
    Greedy.density score cost p =
      if Gen.C03.densitySupported (score p) = true then
        (if 0 < cost p then some (Gen.C03.densityValue (score p) (cost p)) else none)
      else some 0 := by
  unfold Greedy.density Gen.C03.densitySupported Gen.C03.densityValue
  simp only [gt_iff_lt, decide_eq_true_eq]

/-- one iteration of the selection loop: `if project.cost <= remaining_budget: … remaining_budget -= cost` -/
theorem pass_step (cost : Pid → Rat) (rem : Rat) (p : Pid) (ps : List Pid) :
    Greedy.pass cost rem (p :: ps) =
      if Gen.C03.passFits (cost p) rem = true then
        p :: Greedy.pass cost (Gen.C03.passRemaining rem (cost p)) ps
      else Greedy.pass cost rem ps := by
  unfold Gen.C03.passFits Gen.C03.passRemaining
  rw [Greedy.pass]
  simp only [decide_eq_true_eq]

theorem passLoop_eq (cost : Pid → Rat) (ps : List Pid) : ∀ (sel : List Nat) (rem : Rat),
    Gen.C03.passLoop sel rem (ps.map (fun p => (p, cost p))) =
      (sel ++ Greedy.pass cost rem ps, rem - costOf cost (Greedy.pass cost rem ps)) := by
  induction ps with
  | nil => exact fun sel rem => Prod.ext (List.append_nil sel).symm (sub_zero rem).symm
  | cons p ps ih =>
    intro sel rem
    rw [List.map_cons, Gen.C03.passLoop, Greedy.pass]
    by_cases h : cost p ≤ rem
    · rw [if_pos (decide_eq_true h), if_pos h, ih, List.append_assoc]
      exact Prod.ext rfl (sub_sub rem (cost p) _)
    · rw [if_neg (fun h' => h (of_decide_eq_true h')), if_neg h, ih]

/-- the WHOLE selection loop of the fast path (statement-level leaf `Gen.C03.passLoop`, regenerated from the `for project in
    ordered_projects` loop): run on the ordered projects with their costs it appends exactly the projects the model's `pass`
    takes, in the same order, to whatever was selected before -/
theorem passLoop (cost : Pid → Rat) : ∀ (ps : List Pid) (sel : List Nat) (rem : Rat),
    (Gen.C03.passLoop sel rem (ps.map (fun p => (p, cost p)))).1 = sel ++ Greedy.pass cost rem ps  :=
  fun ps sel rem => congrArg Prod.fst (passLoop_eq cost ps sel rem)

/-- the budget the loop ends with is what the selected projects leave of the budget it started with -/
theorem passLoop_remaining (cost : Pid → Rat) : ∀ (ps : List Pid) (sel : List Nat) (rem : Rat),
    (Gen.C03.passLoop sel rem (ps.map (fun p => (p, cost p)))).2 = rem - costOf cost (Greedy.pass cost rem ps)  :=
  fun ps sel rem => congrArg Prod.snd (passLoop_eq cost ps sel rem)

/-- the pass starts with `instance.budget_limit - total_cost(budget_allocation)` -/
theorem passInitialRemaining (score : Pid → Rat) (I : Inst) (init : List Pid)
    (order : List Pid → Except Err (List Pid)) :
    Greedy.additive score I init order =
      match order ((sortIds I.projects).filter (fun p => !init.contains p)) with
      | .error e => .error e
      | .ok ps =>
        .ok (init ++ Greedy.pass I.cost (Gen.C03.passInitialRemaining I.budget (costOf I.cost init))
          (sortLe (fun a b => ERat.le (Greedy.density score I.cost b) (Greedy.density score I.cost a)) ps)) := rfl

end Pabu.Bridge.C03
