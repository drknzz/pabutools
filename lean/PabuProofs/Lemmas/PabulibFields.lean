/-
  The cells of a Pabulib file: `strip`, split / join on one character, the number codec
  (`showNat` / `showInt` / `showRat` against `readNat?` / `readPyInt` / `readRat`), and the cells the parser
  stores as they stand (`CleanCell`).
-/
import PabuModel.Pabulib
import Mathlib.Data.List.Basic
import Mathlib.Algebra.Order.Field.Rat
namespace Pabu.Pabulib

/-! ## strip -/

theorem dropSpaces_cons (c : Char) (cs : Str) :
    dropSpaces (c :: cs) = if isSpace c then dropSpaces cs else c :: cs := rfl

theorem dropSpaces_length_le : ∀ s : Str, (dropSpaces s).length ≤ s.length
  | [] => Nat.le_refl _
  | c :: cs => by
    rw [dropSpaces_cons]
    split
    · exact Nat.le_succ_of_le (dropSpaces_length_le cs)
    · exact Nat.le_refl _

theorem dropSpaces_eq_self_iff {s : Str} : dropSpaces s = s ↔ ∀ hs : s ≠ [], isSpace (s.head hs) = false := by
  cases s with
  | nil => exact ⟨fun _ hs => absurd rfl hs, fun _ => rfl⟩
  | cons c cs =>
    rw [dropSpaces_cons]
    constructor
    · intro h _
      by_contra hc
      rw [if_pos (by simpa using hc)] at h
      have := dropSpaces_length_le cs
      rw [h, List.length_cons] at this
      omega
    · intro h
      rw [if_neg (by simpa using h (List.cons_ne_nil c cs))]

def Trimmed (s : Str) : Prop :=
  ∀ hs : s ≠ [], isSpace (s.head hs) = false ∧ isSpace (s.getLast hs) = false

theorem trimmed_iff {s : Str} : Trimmed s ↔ dropSpaces s = s ∧ dropSpaces s.reverse = s.reverse := by
  rw [dropSpaces_eq_self_iff, dropSpaces_eq_self_iff]
  constructor
  · intro h
    refine ⟨fun hs => (h hs).1, fun hs => ?_⟩
    rw [List.head_reverse]
    exact (h (by simpa using hs)).2
  · intro h hs
    refine ⟨h.1 hs, ?_⟩
    rw [← List.head_reverse (by simpa using hs)]
    exact h.2 _

theorem strip_of_trimmed {s : Str} (h : Trimmed s) : strip s = s := by
  rw [trimmed_iff] at h
  rw [strip, h.1, h.2, List.reverse_reverse]

theorem dropSpaces_eq_self_of_length {s : Str} (h : s.length ≤ (dropSpaces s).length) : dropSpaces s = s := by
  cases s with
  | nil => rfl
  | cons c cs =>
    rw [dropSpaces_cons] at h ⊢
    split
    · rename_i hc
      rw [if_pos hc] at h
      exact absurd (Nat.le_trans h (dropSpaces_length_le cs)) (Nat.not_succ_le_self _)
    · rfl

theorem trimmed_of_strip {s : Str} (h : strip s = s) : Trimmed s := by
  -- neither pass can have shortened the string
  have l1 := dropSpaces_length_le (dropSpaces s).reverse
  rw [List.length_reverse, ← List.length_reverse, ← strip, h] at l1
  have h1 := dropSpaces_eq_self_of_length l1
  rw [strip, h1] at h
  have h2 := congrArg List.reverse h
  rw [List.reverse_reverse] at h2
  exact trimmed_iff.mpr ⟨h1, h2⟩

theorem trimmed_nil : Trimmed [] := fun hs => absurd rfl hs

theorem trimmed_of_all {s : Str} (h : ∀ c ∈ s, isSpace c = false) : Trimmed s :=
  fun hs => ⟨h _ (List.head_mem hs), h _ (List.getLast_mem hs)⟩

theorem trimmed_append_cons {a b : Str} (c : Char) (ha : a ≠ []) (hb : b ≠ []) (ta : Trimmed a) (tb : Trimmed b) :
    Trimmed (a ++ c :: b) := by
  intro hs
  rw [List.head_append_of_ne_nil ha, List.getLast_append_of_ne_nil _ (List.cons_ne_nil c b), List.getLast_cons hb]
  exact ⟨(ta ha).1, (tb hb).2⟩

theorem stripAll_id {l : List Str} (h : ∀ c ∈ l, strip c = c) : stripAll l = l := by
  unfold stripAll
  conv_rhs => rw [← List.map_id l]
  exact List.map_congr_left h

/-! ## split / join -/

theorem splitOnC_cons (sep c : Char) (cs : Str) :
    splitOnC sep (c :: cs) = if c = sep then [] :: splitOnC sep cs else consHead c (splitOnC sep cs) := rfl

theorem splitOnC_nosep {sep : Char} {a : Str} (h : sep ∉ a) : splitOnC sep a = [a] := by
  induction a with
  | nil => rfl
  | cons c cs ih =>
    rw [List.mem_cons, not_or] at h
    rw [splitOnC_cons, if_neg (Ne.symm h.1), ih h.2]
    rfl

theorem splitOnC_append {sep : Char} {a : Str} (r : Str) (h : sep ∉ a) :
    splitOnC sep (a ++ sep :: r) = a :: splitOnC sep r := by
  induction a with
  | nil => rw [List.nil_append, splitOnC_cons, if_pos rfl]
  | cons c cs ih =>
    rw [List.mem_cons, not_or] at h
    rw [List.cons_append, splitOnC_cons, if_neg (Ne.symm h.1), ih h.2]
    rfl

theorem splitOnC_joinC {sep : Char} : ∀ (l : List Str), l ≠ [] → (∀ s ∈ l, sep ∉ s) →
    splitOnC sep (joinC sep l) = l
  | [], h, _ => absurd rfl h
  | [a], _, hs => splitOnC_nosep (hs a List.mem_cons_self)
  | a :: b :: r, _, hs => by
    rw [joinC, splitOnC_append _ (hs a List.mem_cons_self),
      splitOnC_joinC (b :: r) (List.cons_ne_nil b r) (fun s m => hs s (List.mem_cons_of_mem a m))]

theorem joinC_eq_nil {sep : Char} : ∀ (l : List Str), (∀ s ∈ l, s ≠ []) → joinC sep l = [] → l = []
  | [], _, _ => rfl
  | [a], hs, h => absurd h (hs a List.mem_cons_self)
  | a :: b :: r, _, h => by
    rw [joinC] at h
    exact absurd h (List.append_ne_nil_of_right_ne_nil a (List.cons_ne_nil _ _))

/-- `_split_list` undoes the writer's `",".join(names)` for non-empty comma-free names -/
theorem splitList_joinC (l : List Str) (hne : ∀ s ∈ l, s ≠ []) (hc : ∀ s ∈ l, ',' ∉ s) :
    splitList (joinC ',' l) = l := by
  unfold splitList
  by_cases hl : l = []
  · subst hl; rfl
  · rw [if_neg (fun e => hl (joinC_eq_nil l hne e))]
    exact splitOnC_joinC l hl hc

theorem mem_joinC {sep c : Char} : ∀ (l : List Str), c ∈ joinC sep l → c = sep ∨ ∃ s ∈ l, c ∈ s
  | [], h => absurd h List.not_mem_nil
  | [a], h => Or.inr ⟨a, List.mem_cons_self, h⟩
  | a :: b :: r, h => by
    rw [joinC, List.mem_append, List.mem_cons] at h
    rcases h with h | h | h
    · exact Or.inr ⟨a, List.mem_cons_self, h⟩
    · exact Or.inl h
    · rcases mem_joinC (b :: r) h with h | ⟨s, hs, hc⟩
      · exact Or.inl h
      · exact Or.inr ⟨s, List.mem_cons_of_mem _ hs, hc⟩

theorem trimmed_joinC {sep : Char} : ∀ (l : List Str), (∀ s ∈ l, s ≠ []) → (∀ s ∈ l, Trimmed s) →
    Trimmed (joinC sep l)
  | [], _, _ => trimmed_nil
  | [a], _, ht => ht a List.mem_cons_self
  | a :: b :: r, hne, ht => by
    have hne' : ∀ s ∈ b :: r, s ≠ [] := fun s m => hne s (List.mem_cons_of_mem a m)
    rw [joinC]
    exact trimmed_append_cons sep (hne a List.mem_cons_self)
      (fun e => List.cons_ne_nil b r (joinC_eq_nil _ hne' e)) (ht a List.mem_cons_self)
      (trimmed_joinC (b :: r) hne' (fun s m => ht s (List.mem_cons_of_mem a m)))

/-! ## numbers -/

def numChar (c : Char) : Bool := isDigit c || c == '-' || c == '/'

theorem digit_facts : ∀ d, d < 10 →
    (digitChar d).toNat = 48 + d ∧ isDigit (digitChar d) = true := by decide

/-- what the proofs need to know about a number character, as one Boolean test -/
def numOK (c : Char) : Bool :=
  !isSpace c && c != ',' && c.toLower == c && !kNone.contains c

theorem numOK_range : ∀ n, n < 58 → (decide (45 ≤ n) && decide (n ≠ 46)) = true → numOK (Char.ofNat n) = true := by
  decide +kernel

theorem numChar_facts {c : Char} (h : numChar c = true) :
    isSpace c = false ∧ c ≠ ',' ∧ c.toLower = c ∧ c ∉ kNone := by
  have hr : c.toNat < 58 ∧ 45 ≤ c.toNat ∧ c.toNat ≠ 46 := by
    have h := h
    unfold numChar isDigit at h
    simp only [Bool.or_eq_true, Bool.and_eq_true, decide_eq_true_eq, beq_iff_eq] at h
    rcases h with (⟨h1, h2⟩ | h) | h
    · omega
    · subst h; decide
    · subst h; decide
  have := numOK_range c.toNat hr.1 (by simp [hr.2.1, hr.2.2])
  rw [Char.ofNat_toNat] at this
  unfold numOK at this
  simp only [Bool.and_eq_true, Bool.not_eq_true', bne_iff_ne, ne_eq, beq_iff_eq, List.contains_eq_mem,
    decide_eq_false_iff_not] at this
  obtain ⟨⟨⟨a, b⟩, c⟩, d⟩ := this
  exact ⟨a, b, c, d⟩

theorem showNatAux_succ (f n : Nat) :
    showNatAux (f + 1) n = if n < 10 then [digitChar n] else showNatAux f (n / 10) ++ [digitChar (n % 10)] := rfl

theorem showNatAux_fuel (n : Nat) : ∀ f, n ≤ f → showNatAux f n = showNatAux n n := by
  induction n using Nat.strong_induction_on with
  | _ n ih =>
    intro f hf
    cases n with
    | zero => cases f <;> rfl
    | succ k =>
      obtain ⟨f, rfl⟩ : ∃ f', f = f' + 1 := ⟨f - 1, (Nat.succ_pred_eq_of_pos (Nat.lt_of_lt_of_le (Nat.succ_pos k) hf)).symm⟩
      have hd : (k + 1) / 10 ≤ k := by omega
      rw [showNatAux_succ, showNatAux_succ]
      by_cases h : k + 1 < 10
      · rw [if_pos h, if_pos h]
      · rw [if_neg h, if_neg h, ih _ (Nat.lt_succ_of_le hd) f (Nat.le_trans hd (Nat.le_of_succ_le_succ hf)),
          ih _ (Nat.lt_succ_of_le hd) k hd]

theorem showNat_eq (n : Nat) :
    showNat n = if n < 10 then [digitChar n] else showNat (n / 10) ++ [digitChar (n % 10)] := by
  unfold showNat
  cases n with
  | zero => rfl
  | succ k => rw [showNatAux_succ, showNatAux_fuel ((k + 1) / 10) k (by omega)]

theorem showNat_digits (n : Nat) : ∀ c ∈ showNat n, isDigit c = true := by
  induction n using Nat.strong_induction_on with
  | _ n ih =>
    intro c hc
    rw [showNat_eq] at hc
    split at hc
    · rw [List.mem_singleton.mp hc]
      exact (digit_facts n (by assumption)).2
    · rcases List.mem_append.mp hc with hc | hc
      · exact ih (n / 10) (Nat.div_lt_self (Nat.lt_of_lt_of_le (by decide : 0 < 10) (Nat.le_of_not_lt (by assumption))) (by decide)) c hc
      · rw [List.mem_singleton.mp hc]
        exact (digit_facts (n % 10) (Nat.mod_lt _ (by decide))).2

theorem showNat_ne_nil (n : Nat) : showNat n ≠ [] := by
  rw [showNat_eq]
  split
  · exact List.cons_ne_nil _ _
  · exact List.append_ne_nil_of_right_ne_nil _ (List.cons_ne_nil _ _)

theorem digitsVal_append (s : Str) (c : Char) : digitsVal (s ++ [c]) = digitsVal s * 10 + (c.toNat - 48) := by
  simp only [digitsVal, List.foldl_append, List.foldl_cons, List.foldl_nil]

theorem digitsVal_showNat (n : Nat) : digitsVal (showNat n) = n := by
  induction n using Nat.strong_induction_on with
  | _ n ih =>
    rw [showNat_eq]
    by_cases h : n < 10
    · rw [if_pos h, ← List.nil_append [digitChar n], digitsVal_append, (digit_facts n h).1]
      show 0 * 10 + (48 + n - 48) = n
      omega
    · rw [if_neg h, digitsVal_append, ih (n / 10) (by omega), (digit_facts (n % 10) (by omega)).1]
      omega

theorem allDigits_showNat (n : Nat) : allDigits (showNat n) = true := List.all_eq_true.mpr (showNat_digits n)

theorem readNat_showNat (n : Nat) : readNat? (showNat n) = some n := by
  unfold readNat?
  rw [if_pos ⟨showNat_ne_nil n, allDigits_showNat n⟩, digitsVal_showNat]

theorem not_mem_showNat (n : Nat) {c : Char} (hc : isDigit c = false) : c ∉ showNat n := by
  intro m
  rw [showNat_digits n c m] at hc
  exact Bool.noConfusion hc

theorem showNat_head_ne (n : Nat) {c : Char} (hc : isDigit c = false) : (showNat n).head? ≠ some c :=
  fun h => not_mem_showNat n hc (List.mem_of_mem_head? h)

theorem showNat_numChar (n : Nat) : ∀ c ∈ showNat n, numChar c = true := by
  intro c hc
  rw [numChar, showNat_digits n c hc]
  rfl

theorem showInt_numChar (i : Int) : ∀ c ∈ showInt i, numChar c = true := by
  intro c hc
  unfold showInt at hc
  split at hc
  · rcases List.mem_cons.mp hc with hc | hc
    · subst hc; rfl
    · exact showNat_numChar _ c hc
  · exact showNat_numChar _ c hc

theorem showRat_numChar (q : Rat) : ∀ c ∈ showRat q, numChar c = true := by
  intro c hc
  unfold showRat at hc
  split at hc
  · exact showInt_numChar _ c hc
  · rcases List.mem_append.mp hc with hc | hc
    · exact showInt_numChar _ c hc
    · rcases List.mem_cons.mp hc with hc | hc
      · subst hc; rfl
      · exact showNat_numChar _ c hc

theorem showInt_ne_nil (i : Int) : showInt i ≠ [] := by
  unfold showInt
  split
  · exact List.cons_ne_nil _ _
  · exact showNat_ne_nil _

theorem showRat_ne_nil (q : Rat) : showRat q ≠ [] := by
  unfold showRat
  split
  · exact showInt_ne_nil _
  · exact List.append_ne_nil_of_left_ne_nil (showInt_ne_nil _) _

theorem readSigned_showInt (i : Int) : readSigned? (showInt i) = some i := by
  unfold readSigned? showInt
  by_cases h : i < 0
  · rw [if_pos h, List.head?_cons, if_pos rfl, List.tail_cons, readNat_showNat, Option.map_some]
    congr 1
    simp only [Int.ofNat_eq_natCast]
    omega
  · rw [if_neg h, if_neg (showNat_head_ne _ (by decide)), readNat_showNat, Option.map_some]
    congr 1
    simp only [Int.ofNat_eq_natCast]
    omega

theorem readPyInt_showInt (i : Int) : readPyInt (showInt i) = .ok i := by
  unfold readPyInt
  have : (showInt i).head? ≠ some '+' := fun h =>
    absurd (showInt_numChar i _ (List.mem_of_mem_head? h)) (by decide)
  rw [if_neg this, readSigned_showInt]

theorem commaToDot_numStr {s : Str} (h : ∀ c ∈ s, numChar c = true) : commaToDot s = s := by
  unfold commaToDot
  conv_rhs => rw [← List.map_id s]
  exact List.map_congr_left (fun c hc => if_neg (numChar_facts (h c hc)).2.1)

theorem trimmed_numStr {s : Str} (h : ∀ c ∈ s, numChar c = true) : Trimmed s :=
  trimmed_of_all (fun c hc => (numChar_facts (h c hc)).1)

theorem lower_numStr {s : Str} (h : ∀ c ∈ s, numChar c = true) : lower s = s := by
  unfold lower
  conv_rhs => rw [← List.map_id s]
  exact List.map_congr_left (fun c hc => (numChar_facts (h c hc)).2.2.1)

theorem showRat_noComma (q : Rat) : ',' ∉ showRat q :=
  fun m => (numChar_facts (showRat_numChar q _ m)).2.1 rfl

theorem readDecimal_showNat (neg : Bool) (n : Nat) :
    readDecimal neg (showNat n) [] = .ok (if neg then -(n : Rat) else (n : Rat)) := by
  have h1 : ¬ ((showNat n = [] ∧ ([] : Str) = []) ∨ allDigits (showNat n) = false ∨ allDigits ([] : Str) = false) := by
    rw [allDigits_showNat]
    exact fun h => h.elim (fun h => showNat_ne_nil n h.1) (fun h => h.elim Bool.noConfusion Bool.noConfusion)
  unfold readDecimal
  rw [if_neg h1, List.append_nil, digitsVal_showNat]
  simp only [List.length_nil, pow_zero, Rat.mkRat_one, Int.cast_natCast]

theorem readUnsigned_nat (neg : Bool) (n : Nat) :
    readUnsignedRat neg (showNat n) = .ok (if neg then -(n : Rat) else (n : Rat)) := by
  unfold readUnsignedRat
  rw [splitOnC_nosep (not_mem_showNat n (by decide))]
  simp only
  rw [splitOnC_nosep (not_mem_showNat n (by decide))]
  exact readDecimal_showNat neg n

theorem readUnsigned_frac (neg : Bool) (a b : Nat) (hb : b ≠ 0) :
    readUnsignedRat neg (showNat a ++ '/' :: showNat b) =
      .ok (mkRat (if neg then - (a : Int) else (a : Int)) b) := by
  have hdot : (showNat a ++ '/' :: showNat b).contains '.' = false := by
    rw [Bool.eq_false_iff, Ne, List.contains_iff_mem, List.mem_append, List.mem_cons]
    exact fun h => h.elim (not_mem_showNat a (by decide))
      (fun h => h.elim (by decide) (not_mem_showNat b (by decide)))
  unfold readUnsignedRat
  rw [splitOnC_append _ (not_mem_showNat a (by decide)), splitOnC_nosep (not_mem_showNat b (by decide))]
  simp only [hdot, readNat_showNat, hb, if_false, Bool.false_eq_true]

theorem readRat_showRat (q : Rat) : readRat (showRat q) = .ok q := by
  unfold readRat showRat showInt
  have hq : mkRat q.num q.den = q := Rat.mkRat_self q
  have hnum : q.num < 0 → - (q.num.natAbs : Int) = q.num := fun h => by omega
  have hnum' : ¬ q.num < 0 → (q.num.natAbs : Int) = q.num := fun h => by omega
  by_cases hd : q.den = 1
  · rw [if_pos hd]
    rw [hd, Rat.mkRat_one] at hq
    by_cases hn : q.num < 0
    · rw [if_pos hn, List.head?_cons, if_pos rfl, List.tail_cons, readUnsigned_nat, if_pos rfl]
      conv_rhs => rw [← hq, ← hnum hn]
      simp only [Int.cast_neg, Int.cast_natCast]
    · rw [if_neg hn, if_neg (showNat_head_ne _ (by decide)), readUnsigned_nat, if_neg Bool.false_ne_true]
      conv_rhs => rw [← hq, ← hnum' hn]
      simp only [Int.cast_natCast]
  · rw [if_neg hd]
    by_cases hn : q.num < 0
    · rw [if_pos hn, List.cons_append, List.head?_cons, if_pos rfl, List.tail_cons,
        readUnsigned_frac true _ _ q.den_nz, if_pos rfl, hnum hn, hq]
    · rw [if_neg hn]
      have : (showNat q.num.natAbs ++ '/' :: showNat q.den).head? ≠ some '-' := by
        rw [List.head?_append_of_ne_nil _ (showNat_ne_nil _)]
        exact showNat_head_ne _ (by decide)
      rw [if_neg this, readUnsigned_frac false _ _ q.den_nz, if_neg Bool.false_ne_true, hnum' hn, hq]

theorem readRat_budget (q : Rat) : readRat (commaToDot (showRat q)) = .ok q := by
  rw [commaToDot_numStr (showRat_numChar q), readRat_showRat]

theorem split_points (l : List Rat) (hne : l ≠ []) :
    splitOnC ',' (joinC ',' (l.map showRat)) = l.map showRat := by
  apply splitOnC_joinC _ (fun e => hne (List.map_eq_nil_iff.mp e))
  intro s hs
  obtain ⟨q, _, rfl⟩ := List.mem_map.mp hs
  exact showRat_noComma q

/-! ## cells: `none`, and what reads back as written -/

theorem isNone_false_of_char {s : Str} (ht : Trimmed s) (c : Char) (hc : c ∈ s) (hl : c.toLower ∉ kNone) :
    isNone s = false := by
  unfold isNone
  rw [strip_of_trimmed ht, beq_eq_false_iff_ne]
  intro h
  exact hl (h ▸ List.mem_map.mpr ⟨c, hc, rfl⟩)

theorem isNone_nil : isNone [] = false := by decide

theorem isNone_noneCell : isNone kNoneCell = true := by decide

/-- a cell that both row loops of the parser store as it stands: stripped and not `none` -/
abbrev CleanCell (v : Str) : Prop := strip v = v ∧ isNone v = false

/-- what the row loops of the parser make of a cell -/
def readCell (v : Str) : Option Str := if isNone v then none else some (strip v)

/-- the cell codec: an absent entry is written `None` and skipped by the parser, a clean one is written
    and read as it is -/
theorem readCell_cellOr {o : Option Str} (h : ∀ v, o = some v → CleanCell v) : readCell (cellOr o) = o := by
  cases o with
  | none => exact if_pos isNone_noneCell
  | some v =>
    have hv := h v rfl
    show (if isNone v then none else some (strip v)) = some v
    rw [hv.2, hv.1]
    rfl

theorem numStr_clean {s : Str} (h : ∀ c ∈ s, numChar c = true) (hne : s ≠ []) : CleanCell s := by
  have ht := trimmed_numStr h
  obtain ⟨c, hc⟩ := List.exists_mem_of_ne_nil s hne
  obtain ⟨_, _, hl, hn⟩ := numChar_facts (h c hc)
  exact ⟨strip_of_trimmed ht, isNone_false_of_char ht c hc (hl.symm ▸ hn)⟩

theorem showNat_clean (n : Nat) : CleanCell (showNat n) := numStr_clean (showNat_numChar n) (showNat_ne_nil n)

theorem showInt_clean (i : Int) : CleanCell (showInt i) := numStr_clean (showInt_numChar i) (showInt_ne_nil i)

theorem showRat_clean (q : Rat) : CleanCell (showRat q) := numStr_clean (showRat_numChar q) (showRat_ne_nil q)

theorem joinC_clean : ∀ (l : List Str), (∀ s ∈ l, s ≠ []) → (∀ s ∈ l, Trimmed s) → (∀ s ∈ l, isNone s = false) →
    CleanCell (joinC ',' l)
  | [], _, _, _ => ⟨rfl, isNone_nil⟩
  | [a], _, ht, hn => ⟨strip_of_trimmed (ht a List.mem_cons_self), hn a List.mem_cons_self⟩
  | a :: b :: r, hne, ht, _ => by
    have t := trimmed_joinC (sep := ',') (a :: b :: r) hne ht
    refine ⟨strip_of_trimmed t, isNone_false_of_char t ',' ?_ (by decide)⟩
    rw [joinC]
    exact List.mem_append_right a List.mem_cons_self

/-- a name the writer can put into a comma-separated cell -/
structure CleanName (s : Str) : Prop where
  trimmed : Trimmed s
  ne : s ≠ []
  notNone : isNone s = false
  noComma : ',' ∉ s

theorem cleanName_of_good {s : Str} (h : GoodName s) : CleanName s :=
  ⟨trimmed_of_strip h.stripped, h.ne, h.notNone, h.noComma⟩

theorem joinC_names_clean (l : List Str) (h : ∀ s ∈ l, CleanName s) : CleanCell (joinC ',' l) :=
  joinC_clean l (fun s m => (h s m).ne) (fun s m => (h s m).trimmed) (fun s m => (h s m).notNone)

theorem joinC_nums_clean (l : List Rat) : CleanCell (joinC ',' (l.map showRat)) := by
  have hq : ∀ s ∈ l.map showRat, ∃ q, s = showRat q := fun s m => by
    obtain ⟨q, _, rfl⟩ := List.mem_map.mp m
    exact ⟨q, rfl⟩
  refine joinC_clean _ (fun s m => ?_) (fun s m => ?_) (fun s m => ?_) <;> obtain ⟨q, rfl⟩ := hq s m
  · exact showRat_ne_nil q
  · exact trimmed_numStr (showRat_numChar q)
  · exact (showRat_clean q).2

end Pabu.Pabulib
