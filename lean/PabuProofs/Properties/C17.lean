/-
  C17 — election containers keep their type, metadata and ballot validation.
  Table model: PabuModel.Containers; rows regenerated from the class sources: Gen.Containers.
-/
import Gen.Containers
namespace Pabu.Containers
open Pabu.Gen

/-- every deriving method of the builtin base of every container class is re-wrapped or defined by the class itself,
    its constructor copies and keeps the attributes, and copy / pickle reconstruct it with its attributes -/
theorem closure : ∀ r ∈ containerRows, r.rowClosed = true := by decide +kernel

/-- every primitive of the builtin base that can store a new ballot in a profile is overridden by a validating method
    (and `as_multiprofile` passes every legal limit on) -/
theorem validated : ∀ r ∈ containerRows, r.rowValidated = true := by decide +kernel

/-- ballot constructors keep the name and meta they are given and copy them from a ballot -/
theorem ballot_keeps_name_meta : ∀ r ∈ containerRows, r.ballotOk = true := by decide +kernel

theorem step_preserve (r : ClassRow) (h : r.rowClosed = true) (o : Obj) (op : OpKind)
    (hop : ∀ m, op = .deriving m → m ∈ r.base.deriving)
    (ho : o.cls = some r.name ∧ o.attrs = true) :
    (step r o op).cls = some r.name ∧ (step r o op).attrs = true := by
  simp only [ClassRow.rowClosed, Bool.and_eq_true, List.all_eq_true] at h
  obtain ⟨⟨⟨⟨hall, hctor⟩, hcopies⟩, hpickle⟩, hcopy⟩ := h
  cases op with
  | «deriving» m => rw [step, if_pos ho.1, hall m (hop m rfl), hctor, Bool.and_self, if_pos rfl]; exact ho
  | inplace m => exact ho
  | mutate m wt =>
    -- whichever branch is taken, class and attributes are those of `o`: an unvalidated insertion writes `valid` only
    simp only [step, if_pos ho.1, apply_ite Obj.cls, apply_ite Obj.attrs, ite_self]
    exact ho
  | copy => rw [step, if_pos ho.1, if_pos hcopy]; exact ho
  | pickle => rw [step, if_pos ho.1, if_pos hpickle]; exact ho
  | construct => rw [step, if_pos ho.1, hcopies, hctor, Bool.and_self, if_pos rfl]; exact ho

theorem ops_preserve (r : ClassRow) (h : r.rowClosed = true) (ops : List OpKind)
    (hops : ∀ op ∈ ops, ∀ m, op = .deriving m → m ∈ r.base.deriving) (o : Obj)
    (ho : o.cls = some r.name ∧ o.attrs = true) :
    (runOps r o ops).cls = some r.name ∧ (runOps r o ops).attrs = true := by
  unfold runOps
  induction ops generalizing o with
  | nil => exact ho
  | cons op ops ih =>
    exact ih (fun op' h' => hops op' (List.mem_cons_of_mem _ h')) _
      (step_preserve r h o op (hops op (by simp)) ho)

/-- one step keeps a valid object valid: `lost` counts as valid, and the only step that writes `valid` is an
    insertion through a primitive that does not validate -/
theorem step_valid (r : ClassRow) (h : r.base.inserting.all r.validating.contains = true)
    (o : Obj) (op : OpKind) (ho : o.valid = true) : (step r o op).valid = true := by
  cases op with
  | mutate m wt =>
    rw [step]
    by_cases hins : r.base.inserting.contains m = true
    · rw [if_pos hins, if_pos (List.all_eq_true.1 h m (List.contains_iff_mem.1 hins)), ite_self]; exact ho
    · rw [if_neg hins, ite_self]; exact ho
  | _ => simp only [step, apply_ite Obj.valid, ho, lost, ite_self]

theorem valid_preserved (r : ClassRow) (h : r.base.inserting.all r.validating.contains = true)
    (ops : List OpKind) (o : Obj) (ho : o.valid = true) : (runOps r o ops).valid = true := by
  unfold runOps
  induction ops generalizing o with
  | nil => exact ho
  | cons op ops ih => exact ih _ (step_valid r h o op ho)

/-- for the classes of the library: every container class is closed, so every operation sequence preserves class
    and attributes -/
theorem containers_preserve (r : ClassRow) (hr : r ∈ containerRows) (ops : List OpKind)
    (hops : ∀ op ∈ ops, ∀ m, op = .deriving m → m ∈ r.base.deriving) :
    (runOps r { cls := some r.name, attrs := true, valid := true } ops).cls = some r.name ∧
    (runOps r { cls := some r.name, attrs := true, valid := true } ops).attrs = true :=
  ops_preserve r (closure r hr) ops hops _ ⟨rfl, rfl⟩

/-- for the classes of the library: every profile class validates, so a valid profile stays valid -/
theorem profiles_stay_valid (r : ClassRow) (hr : r ∈ containerRows)
    (hrole : r.role = .listProfile ∨ r.role = .multiProfile) (ops : List OpKind) :
    (runOps r { cls := some r.name, attrs := true, valid := true } ops).valid = true := by
  apply valid_preserved r _ ops _ rfl
  have hv := validated r hr
  unfold ClassRow.rowValidated at hv
  rcases hrole with h | h
  · rw [h] at hv; simp only [Bool.and_eq_true] at hv; exact hv.1
  · rw [h] at hv; exact hv

/-! non-vacuity: a concrete sequence on the approval profile row, and sensitivity: a row without the `__pos__`
    wrapper (the unrepaired multiprofile) is not closed and loses class and attributes -/
example : ∃ r ∈ containerRows, r.name = "ApprovalProfile" ∧
    (runOps r { cls := some r.name, attrs := true, valid := true }
      [.deriving "__add__", .mutate "__iadd__" false, .pickle, .deriving "__getitem__", .construct, .copy]).valid = true := by
  decide +kernel

def unrepairedMulti : ClassRow :=
  { name := "M", base := .counter, role := .multiProfile,
    wrapped := ["__add__", "__sub__", "__and__", "__or__", "__ror__", "copy"], ownMethods := ["__reduce__"],
    inherited := [], validating := [], ctorCopies := true, ctorKeeps := true, metaDefaultOk := true,
    asMultiComplete := true }

example : unrepairedMulti.rowClosed = false ∧
    (runOps unrepairedMulti { cls := some "M", attrs := true, valid := true } [.deriving "__pos__"]).cls = none ∧
    (runOps unrepairedMulti { cls := some "M", attrs := true, valid := true } [.mutate "setdefault" false]).valid = false := by
  decide +kernel

end Pabu.Containers
