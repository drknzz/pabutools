/-
  Bridge C13 — the regenerated sort keys of the shipped tie-breaking rules (Gen/C13.lean, produced from the
  lambdas of the current source of pabutools/tiebreaking.py on every run) are the keys of the model
  (`Tie.key` in PabuModel/RoundRule.lean).
-/
import Gen.C13
import PabuModel.RoundRule
import Mathlib.Tactic.NormNum
import Mathlib.Algebra.Order.Field.Rat
namespace Pabu.Bridge.C13
open Pabu

/-- `lexico_tie_breaking`: `proj.name` (the model's project ids are name ranks) -/
theorem lexico (cost : Pid → Rat) (score : Pid → Nat) (p : Pid) :
    Tie.key .lexico cost score p = Gen.C13.lexicoKey ((p : Nat) : Rat) := rfl

/-- `app_score_tie_breaking`: `-prof.approval_score(proj)` -/
theorem appScore (cost : Pid → Rat) (score : Pid → Nat) (p : Pid) :
    Tie.key .appScore cost score p = Gen.C13.appScoreKey ((score p : Nat) : Rat) := rfl

/-- `min_cost_tie_breaking`: `proj.cost` -/
theorem minCost (cost : Pid → Rat) (score : Pid → Nat) (p : Pid) :
    Tie.key .minCost cost score p = Gen.C13.minCostKey (cost p) := rfl

/-- `max_cost_tie_breaking`: `-proj.cost` -/
theorem maxCost (cost : Pid → Rat) (score : Pid → Nat) (p : Pid) :
    Tie.key .maxCost cost score p = Gen.C13.maxCostKey (cost p) := rfl

/-- the order of `min_cost_tie_breaking` is the stable sort by the regenerated key -/
theorem order_minCost (cost : Pid → Rat) (score : Pid → Nat) (l : List Pid) :
    Tie.order .minCost cost score l = .ok (sortKey (fun p => Gen.C13.minCostKey (cost p)) (sortIds l)) := by
  unfold Tie.order
  rw [if_neg (by simp)]
  rfl

/-! ### the order and the identity of projects

  `sorted(projects)` — the pre-sort of every tie-breaking rule, of the greedy fast path, of `sorted(instance)` — and membership
  in sets and dicts rest on `Project.__lt__`, `__le__`, `__eq__`, `__hash__`.  The regenerated definitions (names as their
  ranks in the string order) compare the NAMES, whether the other side is a project or a bare name; so the order is a strict
  total order that agrees with `__le__` and `__eq__`, and equal projects have equal hashes.  A "natural" order that treats some
  pairs of names as numbers (not transitive: "2" < "10" < "1a" < "2") does not translate to these definitions. -/

theorem projectLt (a b : Rat) :
    Gen.C13.projectLt a b = decide (a < b) ∧ Gen.C13.projectLtName a b = decide (a < b) := ⟨rfl, rfl⟩

theorem projectLe (a b : Rat) :
    Gen.C13.projectLe a b = decide (a ≤ b) ∧ Gen.C13.projectLeName a b = decide (a ≤ b) := ⟨rfl, rfl⟩

theorem projectEq (a b : Rat) :
    Gen.C13.projectEq a b = decide (a = b) ∧ Gen.C13.projectEqName a b = decide (a = b) ∧ Gen.C13.projectEqOther = false :=
  ⟨rfl, rfl, rfl⟩

/-- equal projects have equal hashes, whatever the hash function of strings is -/
theorem projectHash (h : Rat → Rat) (a b : Rat) (heq : Gen.C13.projectEq a b = true) :
    Gen.C13.projectHash h a = Gen.C13.projectHash h b := by
  unfold Gen.C13.projectEq at heq
  rw [of_decide_eq_true heq]

/-- the library's order on projects is a strict total order, consistent with its `<=` and `==` -/
theorem project_order_strict_total :
    (∀ a, Gen.C13.projectLt a a = false) ∧
    (∀ a b c, Gen.C13.projectLt a b = true → Gen.C13.projectLt b c = true → Gen.C13.projectLt a c = true) ∧
    (∀ a b, Gen.C13.projectLt a b = true ∨ Gen.C13.projectEq a b = true ∨ Gen.C13.projectLt b a = true) ∧
    (∀ a b, Gen.C13.projectLe a b = (Gen.C13.projectLt a b || Gen.C13.projectEq a b)) ∧
    (∀ a b, Gen.C13.projectLt a b = true → Gen.C13.projectLt b a = false) := by
  refine ⟨fun a => decide_eq_false (lt_irrefl a),
    fun a b c h₁ h₂ => decide_eq_true (lt_trans (of_decide_eq_true h₁) (of_decide_eq_true h₂)),
    fun a b => (lt_trichotomy a b).imp decide_eq_true (Or.imp decide_eq_true decide_eq_true),
    fun a b => ?_, fun a b h => decide_eq_false (lt_asymm (of_decide_eq_true h))⟩
  unfold Gen.C13.projectLe Gen.C13.projectLt Gen.C13.projectEq
  rw [← Bool.decide_or]
  exact decide_eq_decide.mpr le_iff_lt_or_eq

/-- `projectLt` on name ranks is `<` on the ids, the order `sortIds` sorts tied projects by -/
theorem sortIds_is_project_order (p q : Pid) :
    Gen.C13.projectLt ((p : Nat) : Rat) ((q : Nat) : Rat) = decide (p < q) :=
  decide_eq_decide.mpr Nat.cast_lt

example : Gen.C13.maxCostKey 3 < Gen.C13.maxCostKey 2 := by
  norm_num [Gen.C13.maxCostKey]

end Pabu.Bridge.C13
