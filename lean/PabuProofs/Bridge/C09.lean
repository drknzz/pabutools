/-
  Bridge C09 — the regenerated leaf formulas of `exhaustion_by_budget_increase` (Gen/C09.lean, produced from
  the current source of pabutools/rules/exhaustion.py on every run) are the formulas of the model
  (PabuModel/Exhaustion.lean): the loop guard `current budget <= bound`, the next budget `current + step`, the
  documented default parameters (step = 1% of the budget, bound = budget · (number of voters + 1)), and the two
  `while` loops as a whole, which are one loop (`whileLoop`) that returns what the model's `Wrap.loop` returns.
-/
import Gen.C09
import PabuProofs.Lemmas.Wrappers
namespace Pabu.Bridge.C09

/-- the model's stop guard `bound < cur` is the negation of `while current_budget <= budget_bound` -/
theorem withinBound (cur bound : Rat) :
    decide (bound < cur) = !Gen.C09.withinBound cur bound := by
  simp only [Gen.C09.withinBound, ← not_le, decide_not]

/-- one iteration of the `while` loop (resolute) -/
theorem budgetIncrease_step (rule : Rat → Except Err (List Pid)) (feas exh : List Pid → Bool) (exhStop : Bool)
    (step bound : Rat) (f : Nat) (cur : Rat) (prev : List Pid) :
    Exhaustion.budgetIncrease rule feas exh exhStop step bound (f + 1) cur prev =
      if Gen.C09.withinBound cur bound = true then
        match rule cur with
        | .error e => .error e
        | .ok W =>
          if !feas W then .ok prev
          else if exhStop && exh W then .ok W
          else Exhaustion.budgetIncrease rule feas exh exhStop step bound f (Gen.C09.nextBudget cur step) W
      else .ok prev := by
  unfold Gen.C09.withinBound Gen.C09.nextBudget
  rw [Exhaustion.budgetIncrease]
  by_cases h : bound < cur
  · rw [if_pos h, if_neg (by simp [not_le.mpr h])]
  · rw [if_neg h, if_pos (by simp [not_lt.mp h])]
    cases rule cur <;> rfl

/-- one iteration of the `while` loop (irresolute) -/
theorem budgetIncreaseAll_step (rule : Rat → Except Err (List (List Pid))) (feas exh : List Pid → Bool)
    (exhStop : Bool) (step bound : Rat) (f : Nat) (cur : Rat) (prev : List (List Pid)) :
    Exhaustion.budgetIncreaseAll rule feas exh exhStop step bound (f + 1) cur prev =
      if Gen.C09.withinBound cur bound = true then
        match rule cur with
        | .error e => .error e
        | .ok Ws =>
          if Ws.any (fun W => !feas W) then .ok prev
          else if exhStop && Ws.any exh then .ok Ws
          else Exhaustion.budgetIncreaseAll rule feas exh exhStop step bound f (Gen.C09.nextBudgetAll cur step) Ws
      else .ok prev := by
  unfold Gen.C09.withinBound Gen.C09.nextBudgetAll
  rw [Exhaustion.budgetIncreaseAll]
  by_cases h : bound < cur
  · rw [if_pos h, if_neg (by simp [not_le.mpr h])]
  · rw [if_neg h, if_pos (by simp [not_lt.mp h])]
    cases rule cur <;> rfl

/-- the budget handed to the next round -/
theorem nextBudget (rule : Rat → Except Err (List Pid)) (feas exh : List Pid → Bool) (exhStop : Bool)
    (step bound : Rat) (f : Nat) (cur : Rat) (prev W : List Pid)
    (hb : Gen.C09.withinBound cur bound = true) (hr : rule cur = .ok W) (hf : feas W = true)
    (hs : (exhStop && exh W) = false) :
    Exhaustion.budgetIncrease rule feas exh exhStop step bound (f + 1) cur prev =
      Exhaustion.budgetIncrease rule feas exh exhStop step bound f (Gen.C09.nextBudget cur step) W := by
  rw [budgetIncrease_step, if_pos hb, hr]
  simp [hf, hs]

/-- the loop ends with the previous outcome once the bound is exceeded -/
theorem beyondBound (rule : Rat → Except Err (List Pid)) (feas exh : List Pid → Bool) (exhStop : Bool)
    (step bound : Rat) (f : Nat) (cur : Rat) (prev : List Pid)
    (hb : Gen.C09.withinBound cur bound = false) :
    Exhaustion.budgetIncrease rule feas exh exhStop step bound (f + 1) cur prev = .ok prev := by
  rw [budgetIncrease_step, if_neg (by rw [hb]; simp)]

/-- documented default: the step is 1% of the budget limit -/
theorem defaultStep (B : Rat) : Gen.C09.defaultStep B = B / 100 := by
  unfold Gen.C09.defaultStep
  ring

/-- documented default: the bound is the budget limit times (number of voters + 1) -/
theorem defaultBound (B n : Rat) : Gen.C09.defaultBound B n = B * (n + 1) := rfl

/-! ### the `while` loop as a whole (statement-level leaves, one per branch of `if resoluteness:`) -/

/-- the shape of the regenerated `while` loops: `Wrap.loop` over a rule that cannot fail, with the loop
    test `within` in place of its negation, and the previous outcome once the fuel is used up -/
def whileLoop {α : Type} (rule : Rat → α) (within : Rat → Bool) (bad good : α → Bool) (step : Rat) :
    Nat → Rat → α → α
  | 0, _, prev => prev
  | f + 1, cur, prev =>
    if within cur then
      if bad (rule cur) then prev
      else if good (rule cur) then rule cur
      else whileLoop rule within bad good step f (cur + step) (rule cur)
    else prev

theorem whileLoop_of_loop {α : Type} {rule : Rat → α} {over within : Rat → Bool} {bad good : α → Bool}
    {step : Rat} (hov : ∀ c, over c = !within c) : ∀ (f : Nat) (cur : Rat) (prev W : α),
    Wrap.loop (fun b => .ok (rule b)) over bad good step f cur prev = .ok W →
      whileLoop rule within bad good step f cur prev = W
  | 0, _, _, _, h => by cases h
  | f + 1, cur, prev, W, h => by
    rw [whileLoop]
    cases hw : within cur with
    | false =>
      rw [Wrap.loop_over (by rw [hov, hw]; rfl)] at h
      exact Except.ok.inj h
    | true =>
      have ho : over cur = false := by rw [hov, hw]; rfl
      have hr : (fun b => (Except.ok (rule b) : Except Err α)) cur = .ok (rule cur) := rfl
      rw [if_pos rfl]
      cases hb : bad (rule cur) with
      | true =>
        rw [Wrap.loop_bad ho hr hb] at h
        exact Except.ok.inj h
      | false =>
        rw [if_neg Bool.false_ne_true]
        cases hg : good (rule cur) with
        | true =>
          rw [Wrap.loop_good ho hr hb hg] at h
          exact Except.ok.inj h
        | false =>
          rw [Wrap.loop_continue ho hr hb hg] at h
          exact whileLoop_of_loop hov f _ _ W h

theorem budgetIncreaseWhile_eq (r : Rat → List Pid) (feas exh : List Pid → Bool) (stop : Bool) (step bound : Rat) :
    ∀ (f : Nat) (cur : Rat) (prev : List Pid),
      Gen.C09.budgetIncreaseWhile r feas exh stop step bound f cur prev =
        whileLoop r (Gen.C09.withinBound · bound) (fun W => !feas W) (fun W => stop && exh W) step f cur prev
  | 0, _, _ => rfl
  | f + 1, cur, prev => by
    rw [Gen.C09.budgetIncreaseWhile, whileLoop, budgetIncreaseWhile_eq r feas exh stop step bound f]
    rfl

theorem budgetIncreaseAllWhile_eq (r : Rat → List (List Pid)) (feas exh : List Pid → Bool) (stop : Bool)
    (step bound : Rat) : ∀ (f : Nat) (cur : Rat) (prev : List (List Pid)),
      Gen.C09.budgetIncreaseAllWhile r feas exh stop step bound f cur prev =
        whileLoop r (Gen.C09.withinBound · bound) (fun Ws => Ws.any (fun W => !feas W))
          (fun Ws => stop && Ws.any exh) step f cur prev
  | 0, _, _ => rfl
  | f + 1, cur, prev => by
    rw [Gen.C09.budgetIncreaseAllWhile, whileLoop, budgetIncreaseAllWhile_eq r feas exh stop step bound f]
    rfl

/-- the WHOLE loop of `exhaustion_by_budget_increase`, resolute branch (regenerated as `Gen.C09.budgetIncreaseWhile`: loop test, the call
    of the rule, the feasibility test BEFORE the exhaustiveness test, the budget increased and the outcome remembered, the `return` after
    the loop): whenever the model returns an allocation (the fuel sufficed, the base rule did not raise), the regenerated loop returns
    the same one -/
theorem budgetIncreaseWhile (r : Rat → List Pid) (feas exh : List Pid → Bool) (stop : Bool) (step bound : Rat) :
    ∀ (f : Nat) (cur : Rat) (prev W : List Pid),
      Exhaustion.budgetIncrease (fun b => .ok (r b)) feas exh stop step bound f cur prev = .ok W →
      Gen.C09.budgetIncreaseWhile r feas exh stop step bound f cur prev = W := by
  intro f cur prev W h
  rw [Wrap.budgetIncrease_eq_loop] at h
  rw [budgetIncreaseWhile_eq]
  exact whileLoop_of_loop (fun c => withinBound c bound) f cur prev W h

/-- the irresolute branch (`any(not is_feasible(o) …)`, `any(is_exhaustive(o) …)`) -/
theorem budgetIncreaseAllWhile (r : Rat → List (List Pid)) (feas exh : List Pid → Bool) (stop : Bool) (step bound : Rat) :
    ∀ (f : Nat) (cur : Rat) (prev W : List (List Pid)),
      Exhaustion.budgetIncreaseAll (fun b => .ok (r b)) feas exh stop step bound f cur prev = .ok W →
      Gen.C09.budgetIncreaseAllWhile r feas exh stop step bound f cur prev = W := by
  intro f cur prev W h
  rw [Wrap.budgetIncreaseAll_eq_loop] at h
  rw [budgetIncreaseAllWhile_eq]
  exact whileLoop_of_loop (fun c => withinBound c bound) f cur prev W h

/-- the regenerated loop on a concrete run: budgets 2, 3, 4 with a rule that buys `[1]` from budget 3 on; `[1]` is exhaustive -/
example : Gen.C09.budgetIncreaseWhile (fun b => if b < 3 then [] else [1]) (fun _ => true) (fun W => W == [1]) true 1 10 5 2 [] = [1] := by
  decide +kernel

example : Gen.C09.withinBound 5 5 = true ∧ Gen.C09.withinBound 6 5 = false ∧ Gen.C09.defaultStep 200 = 2 := by
  norm_num [Gen.C09.withinBound, Gen.C09.defaultStep]

end Pabu.Bridge.C09
