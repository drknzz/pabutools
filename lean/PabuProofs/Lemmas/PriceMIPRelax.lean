/-
  Lemmas about what `priceable(..., relaxation=R)` adds to the program (PabuModel.PriceMIPRelax):
   * rows / variables of the plain program evaluate inside the relaxed program as they do in the plain one (`holds_liftC`);
   * the S5 rows of the relaxed program say S5 with the relaxed cost `rcOf` on the right-hand side (`holds_kS5R`), the
     β-variables and their rows say the point lies in the domain the class declares (`Domain`, `domain_iff`);
   * so the executable test `rsat` holds exactly when the point satisfies `FeasibleR` of PabuProofs.Lemmas.PriceMIP for `rcOf`
     and lies in the domain (`rsat_iff`);
   * the objective of the program at a point is what `get_beta` reports (`objective_eq_getBeta`).
-/
import PabuProofs.Lemmas.PriceMIP
namespace Pabu.PriceMIP

theorem rev_nil (rp : RPoint) : revalLin rp [] = 0 := rfl

theorem rev_base (rp : RPoint) (k : Rat) (v : Var) (ts : List (Rat × RVar)) :
    revalLin rp ((k, RVar.base v) :: ts) = k * rp.base.val v + revalLin rp ts := rfl

theorem rev_betac (rp : RPoint) (k : Rat) (c : Pid) (ts : List (Rat × RVar)) :
    revalLin rp ((k, RVar.betac c) :: ts) = k * rp.betac c + revalLin rp ts := rfl

theorem rev_append (rp : RPoint) (a b : List (Rat × RVar)) : revalLin rp (a ++ b) = revalLin rp a + revalLin rp b :=
  sumOver_append a b _

theorem rev_lift (rp : RPoint) (ts : List (Rat × Var)) :
    revalLin rp (ts.map (fun t => (t.1, RVar.base t.2))) = evalLin rp.base ts :=
  sumOver_map _ ts _

theorem holds_liftC (rp : RPoint) (k : Constr) : (liftC k).holds rp = k.holds rp.base := by
  unfold RConstr.holds Constr.holds liftC
  cases k.sense <;> simp only [rev_lift]

theorem all_liftC (rp : RPoint) (l : List Constr) :
    (l.map liftC).all (RConstr.holds rp) = l.all (Constr.holds rp.base) := by
  rw [List.all_map]
  exact congrArg l.all (funext (holds_liftC rp))

theorem holds_liftD (rp : RPoint) (d : VarDecl) : (liftD d).holds rp = d.holds rp.base := rfl

theorem all_liftD (rp : RPoint) (l : List VarDecl) :
    (l.map liftD).all (RVarDecl.holds rp) = l.all (VarDecl.holds rp.base) :=
  List.all_map

theorem rholds_le (rp : RPoint) (n : String) (ts : List (Rat × RVar)) (r : Rat) :
    RConstr.holds rp { name := n, terms := ts, sense := .le, rhs := r } = true ↔ revalLin rp ts ≤ r := decide_eq_true_iff

theorem rev_suppM (E : Elec) (rp : RPoint) (c : Pid) :
    revalLin rp (suppM E c) = sumOver (supp E c) (fun ai => rp.base.m ai.2) :=
  (sumOver_map _ (supp E c) _).trans (sumOver_congr fun ai _ => one_mul (rp.base.m ai.2))

/-- the relaxation's terms, moved to the left of the row, carry `constant − relaxed cost` -/
theorem rev_relaxTerms (E : Elec) (R : Relax) (rp : RPoint) (c : Pid) :
    revalLin rp (relaxTerms E R c) = relaxRhs E R c - rcOf E R rp c := by
  cases R
  · show -(E.cost c) * rp.beta + 0 = 0 - E.cost c * rp.beta
    ring
  · show -1 * rp.beta + 0 = E.cost c - (E.cost c + rp.beta)
    ring
  · show -1 * rp.betac c + 0 = E.cost c - (E.cost c + rp.betac c)
    ring
  · show -1 * rp.betac c + 0 = E.cost c - (E.cost c + rp.betac c)
    ring
  · show -1 * rp.beta + (-1 * rp.betac c + 0) = E.cost c - (E.cost c + rp.beta + rp.betac c)
    ring

/-- (S5, relaxed) as a formula: the supporters' stability amounts sum to at most the RELAXED cost `get_relaxed_cost` will
    report for this point, plus the big-M term -/
theorem holds_kS5R (E : Elec) (R : Relax) (rp : RPoint) (c : Pid) :
    (kS5R E R c).holds rp = true ↔
      sumOver (supp E c) (fun ai => rp.base.m ai.2) ≤ rcOf E R rp c + rp.base.x c * INF E := by
  rw [kS5R, rholds_le, rev_append, rev_append, rev_suppM, rev_relaxTerms, rev_base, rev_nil]
  show _ + _ + (-(INF E) * rp.base.x c + 0) ≤ _ ↔ _
  exact le_iff_le_of_sub_eq (by ring)

theorem all_kS5R (E : Elec) (R : Relax) (rp : RPoint) :
    (E.C.map (fun c => kS5R E R c)).all (RConstr.holds rp) = true ↔
      ∀ c ∈ E.C, sumOver (supp E c) (fun ai => rp.base.m ai.2) ≤ rcOf E R rp c + rp.base.x c * INF E := by
  simp only [List.all_map, List.all_eq_true, Function.comp_apply, holds_kS5R]

theorem holds_kBetaUp (E : Elec) (rp : RPoint) (c : Pid) :
    (kBetaUp E c).holds rp = true ↔ rp.betac c ≤ (1 - rp.base.x c) * E.budget := by
  rw [kBetaUp, rholds_le, rev_betac, rev_base, rev_nil]
  show 1 * rp.betac c + (E.budget * rp.base.x c + 0) ≤ E.budget ↔ _
  exact le_iff_le_of_sub_eq (by ring)

theorem holds_kBetaLo (E : Elec) (rp : RPoint) (c : Pid) :
    (kBetaLo E c).holds rp = true ↔ (rp.base.x c - 1) * E.budget ≤ rp.betac c := by
  rw [kBetaLo, rholds_le, rev_base, rev_betac, rev_nil]
  show E.budget * rp.base.x c + (-1 * rp.betac c + 0) ≤ E.budget ↔ _
  exact le_iff_le_of_sub_eq (by ring)

theorem rev_betaSum (E : Elec) (rp : RPoint) :
    revalLin rp (E.C.map (fun c => ((1 : Rat), RVar.betac c))) = sumOver E.C rp.betac :=
  (sumOver_map _ E.C _).trans (sumOver_congr fun c _ => one_mul (rp.betac c))

theorem holds_kBetaSum (E : Elec) (rp : RPoint) :
    (kBetaSum E).holds rp = true ↔ sumOver E.C rp.betac ≤ budgetFraction * E.budget := by
  rw [kBetaSum, rholds_le, rev_betaSum]

/-- the domain a relaxation class declares for its β-variables in `add_beta` (bounds of the variables and the rows that tie
    them to `x` / to the budget), as a formula in the selection `x` and the parameters `(β, βv)` -/
def Domain (E : Elec) (R : Relax) (x : Pid → Rat) (β : Rat) (βv : Pid → Rat) : Prop :=
  match R with
  | .mul => 0 ≤ β
  | .add => -(INF E) ≤ β
  | .vec => ∀ c ∈ E.C, -(INF E) ≤ βv c ∧ βv c ≤ (1 - x c) * E.budget ∧ (x c - 1) * E.budget ≤ βv c
  | .vecpos => ∀ c ∈ E.C, 0 ≤ βv c
  | .off => -(INF E) ≤ β ∧ (∀ c ∈ E.C, 0 ≤ βv c) ∧ sumOver E.C βv ≤ budgetFraction * E.budget

theorem rdecl_holds (rp : RPoint) (v : RVar) (lb : Rat) :
    RVarDecl.holds rp { v := v, binary := false, lb := lb } = true ↔ lb ≤ rp.val v := decide_eq_true_iff

theorem domain_iff (E : Elec) (R : Relax) (rp : RPoint) :
    ((betaVars E R).all (RVarDecl.holds rp) = true ∧ (betaRows E R).all (RConstr.holds rp) = true) ↔
      Domain E R rp.base.x rp.beta rp.betac := by
  cases R <;>
    simp only [betaVars, betaRows, Domain, List.all_append, List.all_map, List.all_flatMap, List.all_cons, List.all_nil,
      Bool.and_true, List.all_eq_true, Function.comp_apply, rdecl_holds, Bool.and_eq_true, holds_kBetaUp, holds_kBetaLo,
      holds_kBetaSum, and_true, RPoint.val, ← forall_and, and_assoc]

theorem rsat_eq (E : Elec) (R : Relax) (cfg : Cfg) (rp : RPoint) :
    rsat E R cfg rp = (coreB E cfg rp.base
      && ((betaVars E R).all (RVarDecl.holds rp) && (betaRows E R).all (RConstr.holds rp))
      && (!cfg.stable || (E.C.map (fun c => kS5R E R c)).all (RConstr.holds rp))) := by
  unfold rsat rprogram RProgram.sat rvars rconstraints coreB
  rw [vars_split]
  cases cfg.stable <;>
    simp only [Bool.false_eq_true, if_false, if_true, List.all_append, all_liftD, all_liftC, Bool.not_false, Bool.not_true,
      Bool.true_or, Bool.false_or, Bool.and_true] <;>
    ac_rfl

theorem rsat_iff (E : Elec) (R : Relax) (cfg : Cfg) (rp : RPoint) :
    rsat E R cfg rp = true ↔ FeasibleR E cfg rp.base (rcOf E R rp) ∧ Domain E R rp.base.x rp.beta rp.betac := by
  rw [← domain_iff, rsat_eq, Bool.and_eq_true, Bool.and_eq_true, Bool.and_eq_true, coreB_iff, not_or_eq_true_iff, all_kS5R]
  exact ⟨fun ⟨⟨C, D⟩, h⟩ => ⟨⟨C, h⟩, D⟩, fun ⟨⟨C, h⟩, D⟩ => ⟨⟨C, D⟩, h⟩⟩

theorem objective_eq_getBeta (E : Elec) (R : Relax) (cfg : Cfg) (rp : RPoint) :
    (rprogram E R cfg).objective rp = getBeta E R rp := by
  cases R
  · show 1 * rp.beta + 0 = rp.beta
    rw [one_mul, add_zero]
  · show 1 * rp.beta + 0 = rp.beta
    rw [one_mul, add_zero]
  · exact rev_betaSum E rp
  · exact rev_betaSum E rp
  · show 1 * rp.beta + 0 = rp.beta
    rw [one_mul, add_zero]

end Pabu.PriceMIP
