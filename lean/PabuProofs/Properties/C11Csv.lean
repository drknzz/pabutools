/-
  C11, text layer — the `csv` writer and reader as `pabutools/election/pabulib.py` configures them
  (model: PabuModel/Csv.lean) are inverse to each other on every list of rows whose fields satisfy `FieldOK`,
  each of the two exclusions of `FieldOK` is shown necessary by a counterexample, and with the row-level theorem `parse_write` (Properties/C11)
  this gives the round trip of `election_as_pabulib_string` / `parse_pabulib_from_string` on the TEXT.
-/
import PabuProofs.Lemmas.Csv
import PabuProofs.Properties.C11
namespace Pabu.Csv
open Pabu.Pabulib

/-- reading what was written gives the rows back, without an error: for ALL rows (any number of rows, of
    fields, empty rows, rows holding one empty field, any characters) whose fields are at most
    `csv.field_size_limit()` long and contain `\r` only together with `;`, `"` or `\n` -/
theorem read_write {rows : List (List Str)} (hok : RowsOK rows = true) : csvReadE (csvWrite rows) = (rows, none) :=
  csvReadL_csvWrite hok

theorem read_write_rows {rows : List (List Str)} (hok : RowsOK rows = true) : csvRead (csvWrite rows) = rows := by
  rw [csvRead, read_write hok]

/-- the same for every value of the field size limit -/
theorem read_write_limit {lim : Nat} {rows : List (List Str)} (hok : RowsOKL lim rows = true) :
    csvReadL lim (csvWrite rows) = (rows, none) :=
  csvReadL_csvWrite hok

/-- QUOTE_MINIMAL: a field without `;`, `"`, `\n` is written verbatim, every other field between quotes with
    its quotes doubled -/
theorem quote_minimal (f : Str) :
    (needsQuote f = false → writeField f = f) ∧
    (needsQuote f = true → writeField f = '"' :: (doubleQuotes f ++ ['"'])) := by
  constructor <;> intro h <;> simp [writeField, h]

/-- a written row is its written fields separated by `;`, except that the row holding one empty field is `""`
    (the empty row is the empty line) -/
theorem writeRow_shape (row : List Str) :
    writeRow row = if row = [[]] then ['"', '"'] else joinC ';' (row.map writeField) := by
  have hj : ∀ l : List Str, writeFields l = joinC ';' (l.map writeField) := by
    intro l
    induction l with
    | nil => rfl
    | cons f fs ih =>
      cases fs with
      | nil => rfl
      | cons g r => rw [writeFields, ih]; rfl
  unfold writeRow
  rw [hj]

/-- for ALL texts: the only exception the reader can raise is "field larger than field limit" (the "new-line
    character seen in unquoted field" error of `_csv.c` is unreachable on the lines of `io.StringIO(…, newline="")`) -/
theorem reader_error_only_field_limit {lim : Nat} {text : List Char} {e : CsvErr}
    (h : (csvReadL lim text).2 = some e) : e = .fieldLimit := by
  unfold csvReadL at h
  cases hr : run lim {} text with
  | mk s' oe =>
    rw [hr] at h
    cases oe with
    | none => simp at h
    | some e' =>
      simp only [Option.some.injEq] at h
      subst h
      exact run_error_fieldLimit text {} s' e' (by intro hm; cases hm) hr

/-! ### one counterexample for each exclusion of `FieldOK` -/

/-- a `\r` in a field that nothing else gets quoted: the writer emits it bare and the reader ends the row there -/
theorem rows_ok_necessary_cr :
    RowsOK [[s!!"a\rb"]] = false ∧ csvWrite [[s!!"a\rb"]] = s!!"a\rb\n" ∧
    csvReadE (csvWrite [[s!!"a\rb"]]) = ([[s!!"a"], [s!!"b"]], none) := by decide +kernel

/-- together with a character that gets the field quoted a `\r` is carried -/
example : RowsOK [[s!!"a\r\nb", s!!"\r;"]] = true ∧
    csvReadE (csvWrite [[s!!"a\r\nb", s!!"\r;"]]) = ([[s!!"a\r\nb", s!!"\r;"]], none) := by decide +kernel

/-- a field one character longer than the limit: `_csv.Error`, no row is delivered -/
theorem rows_ok_necessary_limit (lim : Nat) :
    RowsOKL lim [[List.replicate (lim + 1) 'a']] = false ∧
    csvReadL lim (csvWrite [[List.replicate (lim + 1) 'a']]) = ([], some .fieldLimit) := by
  constructor
  · simp [RowsOKL, FieldOK]
  · have hw : csvWrite [[List.replicate (lim + 1) 'a']] = List.replicate (lim + 1) 'a' ++ ['\n'] := by
      have hq : needsQuote (List.replicate (lim + 1) 'a') = false := by
        simp only [needsQuote, List.any_eq_false]
        intro c hc
        rw [List.eq_of_mem_replicate hc]
        decide
      have hne : ¬ ([List.replicate (lim + 1) 'a'] = [[]]) := by simp [List.replicate_succ]
      simp [csvWrite, writeRow, hne, writeFields, writeField, hq]
    have hinit : ({} : RSt) = ⟨.startRecord, [], [], 0, []⟩ := rfl
    rw [hw, csvReadL, hinit, run_limit]
    rfl

/-- the empty row and the row holding one empty field are written differently and both read back -/
theorem empty_row_vs_empty_field :
    csvWrite [[], [[]], [[], []]] = s!!"\n\"\"\n;\n" ∧
    csvReadE (s!!"\n\"\"\n;\n") = ([[], [[]], [[], []]], none) := by decide +kernel

-- what the reader does with text no writer produced (the corners of the state machine)
example : csvReadE (s!!"a\"b;\"c\"d;\"e\"\"f\";\"g;\nh\"\r\n\r\"i") =
    ([[s!!"a\"b", s!!"cd", s!!"e\"f", s!!"g;\nh"], [], [s!!"i"]], none) := by decide +kernel

/-! ### the former reading `csv.reader(file_content.splitlines(), delimiter=";")`

It lost every line break inside a quoted field and ended a row at each of the line boundaries of
`str.splitlines`, none of which the writer quotes except `\n`. -/

theorem splitlines_reading_loses_newline :
    RowsOK [[s!!"two\nlines"]] = true ∧
    csvReadSplitlines (csvWrite [[s!!"two\nlines"]]) = ([[s!!"twolines"]], none) := by decide +kernel

theorem splitlines_reading_splits_rows :
    RowsOK [[['a', Char.ofNat 0x0c, 'b'], ['c', Char.ofNat 0x2028, 'd']]] = true ∧
    csvReadSplitlines (csvWrite [[['a', Char.ofNat 0x0c, 'b'], ['c', Char.ofNat 0x2028, 'd']]]) =
      ([[s!!"a"], [s!!"b", s!!"c"], [s!!"d"]], none) := by decide +kernel

/-! ### the whole file -/

/-- writing a well-formed election to TEXT and parsing the text yields the election in normal form -/
theorem parse_write_text {e : Election} (hw : WF e) (hf : RowsOK (writeRows e) = true) :
    parseText (writeText e) = .ok (norm e) := by
  unfold parseText writeText
  rw [read_write hf]
  simp only
  rw [parse_write hw]

/-- the second round trip through text is the identity -/
theorem round_trip_twice_text {e : Election} (hw : WF e)
    (hN : normLimits e.vtype e.projects.length e.budget e.limits = e.limits)
    (hf : RowsOK (writeRows (norm e)) = true) :
    parseText (writeText (norm e)) = .ok (norm e) := by
  unfold parseText writeText
  rw [read_write hf]
  simp only
  rw [round_trip_twice hw hN]

/-- when the reader raises after having delivered some rows: a section line waiting for its header gets the
    reader's error, an exception of an earlier row comes first -/
example : parseBroken [[s!!"META"]] .fieldLimit = .csv .fieldLimit := by decide
example : parseBroken [[s!!"META"], [s!!"key", s!!"value"], [s!!"x"]] .fieldLimit = .parse .index := by decide

/-! ### non-vacuity: separators, quotes and line breaks inside names and values -/

def exTextProjects : Map ProjData :=
  [(s!!"p\n1", { cost := 5, cats := [], targets := [], md := [(s!!"name", s!!"say \"hi\"; bye")] }),
   (s!!"q;r", { cost := 7 / 2, cats := [['a', Char.ofNat 0x0c, 'b']], targets := [], md := [] })]

def exText : Election :=
  { vtype := .approval, budget := 10, md := [(s!!"description", s!!"two\r\nlines")], projects := exTextProjects,
    votes := [{ ballot := .app [s!!"p\n1", s!!"q;r"], md := [(s!!"district", s!!"\"north\"")] },
              { ballot := .app [s!!"q;r"], md := [] }],
    limits := {} }

theorem wf_exText : WF exText := by decide +kernel
theorem rowsOK_exText : RowsOK (writeRows exText) = true := by decide +kernel
example : parseText (writeText exText) = .ok (norm exText) := parse_write_text wf_exText rowsOK_exText

theorem rowsOK_exApproval : RowsOK (writeRows Pabulib.exApproval) = true := by decide +kernel
example : parseText (writeText Pabulib.exApproval) = .ok (norm Pabulib.exApproval) :=
  parse_write_text Pabulib.wf_exApproval rowsOK_exApproval
example : parseText (writeText (norm Pabulib.exApproval)) = .ok (norm Pabulib.exApproval) :=
  round_trip_twice_text Pabulib.wf_exApproval Pabulib.exApproval_limits_normal (by decide +kernel)

/-- the PROJECTS block of `exText` as text -/
example : csvWrite (writeProjectRows exText.projects) =
    s!!"\"p\n1\";5;\"say \"\"hi\"\"; bye\";None\n\"q;r\";7/2;None;a" ++ Char.ofNat 0x0c :: s!!"b\n" := by decide +kernel

end Pabu.Csv
