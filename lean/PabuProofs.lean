import PabuProofs.Lemmas.Basic
import PabuProofs.Lemmas.RoundRule
import PabuProofs.Lemmas.MES
import PabuProofs.Properties.C02
import PabuProofs.Properties.C07
import PabuProofs.Lemmas.Knapsack
import PabuProofs.Lemmas.KnapsackLift
import PabuProofs.Properties.C04
import PabuProofs.Lemmas.Greedy
import PabuProofs.Lemmas.Phragmen
import PabuProofs.Properties.C03
import PabuProofs.Properties.C03Details
import PabuProofs.Properties.C05
import PabuProofs.Properties.C01
import PabuProofs.Lemmas.Stats
import PabuProofs.Properties.C18
import PabuProofs.Mutants.Stats
import PabuProofs.Lemmas.Tie
import PabuProofs.Properties.C08
import PabuProofs.Properties.C13
import PabuProofs.Lemmas.Wrappers
import PabuProofs.Properties.C09
import PabuProofs.Properties.C19
import PabuProofs.Lemmas.InStep
import PabuProofs.Lemmas.Expand
import PabuProofs.Properties.C06
import PabuProofs.Lemmas.Election
import PabuProofs.Lemmas.MaxWelfare
import PabuProofs.Properties.C15
import PabuProofs.Properties.C10
import PabuProofs.Bridge.C10
import PabuProofs.Lemmas.JR
import PabuProofs.Lemmas.Price
import PabuProofs.Properties.C12
import PabuProofs.Properties.C14
import PabuProofs.Mutants.C04
import PabuProofs.Mutants.C12
import PabuProofs.Mutants.C14
import PabuProofs.Lemmas.Multi
import PabuProofs.Properties.C16
import PabuProofs.Properties.C17
import PabuProofs.Properties.C17Counter
import PabuProofs.Properties.C20
import PabuProofs.Bridge.C02
import PabuProofs.Bridge.C03
import PabuProofs.Bridge.C04
import PabuProofs.Bridge.C05
import PabuProofs.Bridge.C09
import PabuProofs.Bridge.C13
import PabuProofs.Bridge.C14
import PabuProofs.Bridge.C15
import PabuProofs.Bridge.C18
import PabuProofs.Bridge.C06
import PabuProofs.Bridge.C12
import PabuProofs.Bridge.C19
import PabuProofs.Lemmas.PabulibFields
import PabuProofs.Lemmas.PabulibMaps
import PabuProofs.Lemmas.Pabulib
import PabuProofs.Properties.C11
import PabuProofs.Lemmas.Scale
import PabuProofs.Properties.C13Scale
import PabuProofs.Lemmas.PriceMes
import PabuProofs.Properties.C12Mes
import PabuProofs.Lemmas.MESLazy
import PabuProofs.Properties.C02Lazy
import PabuProofs.Properties.C02Memo
import PabuProofs.Lemmas.IteratedTermination
import PabuProofs.Properties.C09Termination
import PabuProofs.Lemmas.MESAnalytics
import PabuProofs.Properties.C07Analytics
import PabuProofs.Lemmas.MesEJR
import PabuProofs.Properties.C14Mes
import PabuProofs.Lemmas.PriceRelax
import PabuProofs.Lemmas.JRCohesive
import PabuProofs.Properties.C12Relax
import PabuProofs.Properties.C14Cohesive
import PabuProofs.Properties.StateFootprint
import PabuProofs.Lemmas.PriceMIP
import PabuProofs.Properties.C12MIP
import PabuProofs.Lemmas.Csv
import PabuProofs.Properties.C11Csv
import PabuProofs.Lemmas.WelfareILP
import PabuProofs.Properties.C04ILP
import PabuProofs.Lemmas.MesVariants
import PabuProofs.Properties.C14MesVariants
import PabuProofs.Properties.C12MesVariants
import PabuProofs.Lemmas.PriceMIPRelax
import PabuProofs.Properties.C12MIPRelax
import PabuProofs.Bridge.C16
