/-
  C17 (validation clause) — the Counter arithmetic every multiprofile inherits, for ALL counters (any keys, any integer
  counts, zero and negative ones included), and the re-validating wrapper of `_wrap_methods`.

  Every operator is one or two loops (`first`, `second`), and one lemma (`get_binop`) says such a pair is pointwise:
  `+ - | &` are `max 0` of sum, difference, maximum, minimum of the counts.  Where the keys of a result come from
  (`*_support`) decides what the wrapper has to re-validate: `-` returns keys of the OPERAND with a negative count
  (`sub_not_closed`), so "the result only holds ballots of self" is false and the unwrapped method admits an intruder.
-/
import PabuModel.CounterArith
import Mathlib.Tactic.Linarith
namespace Pabu
namespace CounterArith

-- the statements carry the `[DecidableEq α]` of the model's section whether they use it or not
set_option linter.unusedSectionVars false
variable {α : Type} [DecidableEq α]

/-! ### basic facts -/

theorem keepPos_eq_some {x : α} {m : Int} {p : α × Int} : keepPos x m = some p ↔ 0 < m ∧ p = (x, m) := by
  unfold keepPos
  by_cases h : 0 < m
  · rw [if_pos h, Option.some.injEq, eq_comm, and_iff_right h]
  · rw [if_neg h]
    exact ⟨nofun, fun h' => absurd h'.1 h⟩

theorem mem_keys {c : Counter α} {x : α} : x ∈ keys c ↔ ∃ n, (x, n) ∈ c := by
  rw [keys, List.mem_map]
  exact ⟨fun ⟨⟨_, n⟩, h, e⟩ => ⟨n, e ▸ h⟩, fun ⟨n, h⟩ => ⟨(x, n), h, rfl⟩⟩

theorem has_eq_true {c : Counter α} {x : α} : has c x = true ↔ x ∈ keys c := by
  rw [has, List.any_eq_true, mem_keys]
  exact ⟨fun ⟨⟨_, n⟩, h, hy⟩ => ⟨n, of_decide_eq_true hy ▸ h⟩, fun ⟨n, h⟩ => ⟨(x, n), h, decide_eq_true rfl⟩⟩

theorem has_eq_false {c : Counter α} {x : α} : has c x = false ↔ x ∉ keys c := by
  rw [← has_eq_true, Bool.not_eq_true]

theorem get_of_not_mem {c : Counter α} {x : α} (h : x ∉ keys c) : get c x = 0 := by
  have : c.find? (fun e => decide (e.1 = x)) = none :=
    List.find?_eq_none.2 fun e he hx => h (mem_keys.2 ⟨e.2, of_decide_eq_true hx ▸ he⟩)
  rw [get, this]

theorem get_of_mem {c : Counter α} {x : α} {n : Int} (hnd : (keys c).Nodup) (h : (x, n) ∈ c) : get c x = n := by
  induction c with
  | nil => cases h
  | cons e c ih =>
    obtain ⟨he, hc⟩ := List.nodup_cons.1 hnd
    rw [get, List.find?_cons]
    rcases List.mem_cons.1 h with rfl | h
    · rw [decide_eq_true rfl]
    · -- `x` is a key of the tail, so the head, whose key occurs once, is another entry
      rw [decide_eq_false fun hx : e.1 = x => he (hx ▸ mem_keys.2 ⟨n, h⟩)]
      exact ih hc h

theorem mem_keys_of_get_ne_zero {c : Counter α} {x : α} (h : get c x ≠ 0) : x ∈ keys c :=
  Decidable.by_contra fun hx => h (get_of_not_mem hx)

theorem get_eq_of_entries {c : Counter α} {x : α} {v : Int} (hnd : (keys c).Nodup)
    (h1 : ∀ n, (x, n) ∈ c → n = v) (h2 : x ∉ keys c → v = 0) : get c x = v := by
  by_cases hx : x ∈ keys c
  · obtain ⟨n, hn⟩ := mem_keys.1 hx
    rw [get_of_mem hnd hn, h1 n hn]
  · rw [get_of_not_mem hx, h2 hx]

/-! ### the two halves of a binary operator -/

/-- first loop: the entries of `self`, with a new count `f key count`, kept when positive -/
def first (f : α → Int → Int) (a : Counter α) : Counter α := a.filterMap (fun e => keepPos e.1 (f e.1 e.2))

/-- second loop: the entries of `other` whose key is not in `self` and whose count passes `q`, stored as `g count` -/
def second (q : Int → Bool) (g : Int → Int) (a b : Counter α) : Counter α :=
  b.filterMap (fun e => if !has a e.1 && q e.2 then some (e.1, g e.2) else none)

theorem mem_first {f : α → Int → Int} {a : Counter α} {x : α} {m : Int} :
    (x, m) ∈ first f a ↔ ∃ n, (x, n) ∈ a ∧ 0 < f x n ∧ m = f x n := by
  rw [first, List.mem_filterMap]
  constructor
  · rintro ⟨⟨y, n⟩, h, hk⟩
    obtain ⟨hp, he⟩ := keepPos_eq_some.1 hk
    cases he
    exact ⟨n, h, hp, rfl⟩
  · rintro ⟨n, h, hp, rfl⟩
    exact ⟨(x, n), h, keepPos_eq_some.2 ⟨hp, rfl⟩⟩

theorem mem_second {q : Int → Bool} {g : Int → Int} {a b : Counter α} {x : α} {m : Int} :
    (x, m) ∈ second q g a b ↔ ∃ n, (x, n) ∈ b ∧ x ∉ keys a ∧ q n = true ∧ m = g n := by
  rw [second, List.mem_filterMap]
  constructor
  · rintro ⟨⟨y, n⟩, h, hk⟩
    by_cases hc : (!has a y && q n) = true
    · rw [if_pos hc] at hk
      cases hk
      rw [Bool.and_eq_true, Bool.not_eq_true', has_eq_false] at hc
      exact ⟨n, h, hc.1, hc.2, rfl⟩
    · rw [if_neg hc] at hk; cases hk
  · rintro ⟨n, h, hx, hq, rfl⟩
    exact ⟨(x, n), h, if_pos (by rw [Bool.and_eq_true, Bool.not_eq_true', has_eq_false]; exact ⟨hx, hq⟩)⟩

theorem keys_filterMap_sublist {c : Counter α} {φ : α × Int → Option (α × Int)}
    (h : ∀ e p, φ e = some p → p.1 = e.1) : (keys (c.filterMap φ)).Sublist (keys c) := by
  induction c with
  | nil => exact List.Sublist.refl _
  | cons e c ih =>
    cases hk : φ e with
    | none => rw [List.filterMap_cons_none hk]; exact List.Sublist.cons _ ih
    | some p =>
      rw [List.filterMap_cons_some hk]
      show (p.1 :: _).Sublist (e.1 :: _)
      rw [h e p hk]
      exact List.Sublist.cons_cons _ ih

theorem keys_first_sublist (f : α → Int → Int) (a : Counter α) : (keys (first f a)).Sublist (keys a) :=
  keys_filterMap_sublist fun _ _ hk => (keepPos_eq_some.1 hk).2 ▸ rfl

theorem keys_second_sublist (q : Int → Bool) (g : Int → Int) (a b : Counter α) :
    (keys (second q g a b)).Sublist (keys b) :=
  keys_filterMap_sublist fun e p hk => by
    split_ifs at hk
    cases hk
    rfl

theorem keys_nil_nodup : (keys ([] : Counter α)).Nodup := List.nodup_nil

theorem keys_append (c d : Counter α) : keys (c ++ d) = keys c ++ keys d := List.map_append

theorem binop_nodup {f : α → Int → Int} {q : Int → Bool} {g : Int → Int} {a b : Counter α}
    (ha : (keys a).Nodup) (hb : (keys b).Nodup) : (keys (first f a ++ second q g a b)).Nodup := by
  rw [keys_append, List.nodup_append]
  refine ⟨(keys_first_sublist f a).nodup ha, (keys_second_sublist q g a b).nodup hb, ?_⟩
  rintro x hx1 _ hx2 rfl
  obtain ⟨m, hm⟩ := mem_keys.1 hx2
  obtain ⟨_, _, hna, _⟩ := mem_second.1 hm
  exact hna ((keys_first_sublist f a).subset hx1)

/-- All six operators are pointwise.  If the first loop computes `F count other[key]` and the second loop stores, for a
    key that `self` lacks, what `F 0 count` cut off at 0 would be (a missing key, which reads as 0, is not stored:
    `q 0 = false`), then for operands with distinct keys the result at `x` is `max 0 (F a[x] b[x])`. -/
theorem get_binop {f : α → Int → Int} {q : Int → Bool} {g : Int → Int} {a b : Counter α} (F : Int → Int → Int)
    (ha : (keys a).Nodup) (hb : (keys b).Nodup) (hq : q 0 = false)
    (hf : ∀ x n, f x n = F n (get b x)) (hg : ∀ m, (if q m = true then g m else 0) = max 0 (F 0 m)) (x : α) :
    get (first f a ++ second q g a b) x = max 0 (F (get a x) (get b x)) := by
  apply get_eq_of_entries (binop_nodup ha hb)
  · intro n hn
    rcases List.mem_append.1 hn with h | h
    · obtain ⟨k, hk, hp, rfl⟩ := mem_first.1 h
      rw [get_of_mem ha hk, ← hf, max_eq_right hp.le]
    · obtain ⟨k, hk, hna, hqk, rfl⟩ := mem_second.1 h
      rw [get_of_not_mem hna, get_of_mem hb hk, ← hg, if_pos hqk]
  · intro hx
    rw [keys_append, List.mem_append, not_or] at hx
    by_cases hxa : x ∈ keys a
    · obtain ⟨k, hk⟩ := mem_keys.1 hxa
      rw [get_of_mem ha hk, ← hf]
      exact max_eq_left (not_lt.1 fun hp => hx.1 (mem_keys.2 ⟨f x k, mem_first.2 ⟨k, hk, hp, rfl⟩⟩))
    · rw [get_of_not_mem hxa, ← hg]
      by_cases hc : q (get b x) = true
      · -- the count passes `q`, so it is not the 0 of a missing key, and the second loop stored it
        obtain ⟨k, hk⟩ := mem_keys.1 (mem_keys_of_get_ne_zero fun h0 => by rw [h0, hq] at hc; cases hc)
        rw [get_of_mem hb hk] at hc
        exact absurd (mem_keys.2 ⟨g k, mem_second.2 ⟨k, hk, hxa, hc, rfl⟩⟩) hx.2
      · rw [if_neg hc]

theorem binop_positive {f : α → Int → Int} {q : Int → Bool} {g : Int → Int} {a b : Counter α}
    (hg : ∀ n, q n = true → 0 < g n) : ∀ e ∈ first f a ++ second q g a b, 0 < e.2 := by
  rintro ⟨x, m⟩ h
  rcases List.mem_append.1 h with h | h
  · obtain ⟨_, _, hp, rfl⟩ := mem_first.1 h; exact hp
  · obtain ⟨n, _, _, hq, rfl⟩ := mem_second.1 h; exact hg n hq

theorem binop_support {f : α → Int → Int} {q : Int → Bool} {g : Int → Int} {a b : Counter α} {x : α}
    (h : x ∈ keys (first f a ++ second q g a b)) : x ∈ keys a ∨ ∃ n, (x, n) ∈ b ∧ q n = true := by
  obtain ⟨m, hm⟩ := mem_keys.1 h
  rcases List.mem_append.1 hm with h | h
  · obtain ⟨n, hn, _, _⟩ := mem_first.1 h; exact Or.inl (mem_keys.2 ⟨n, hn⟩)
  · obtain ⟨n, hn, _, hq, _⟩ := mem_second.1 h; exact Or.inr ⟨n, hn, hq⟩

theorem add_eq (a b : Counter α) :
    add a b = first (fun x n => n + get b x) a ++ second (fun n => decide (0 < n)) (fun n => n) a b := rfl

theorem sub_eq (a b : Counter α) :
    sub a b = first (fun x n => n - get b x) a ++ second (fun n => decide (n < 0)) (fun n => 0 - n) a b := rfl

theorem union_eq (a b : Counter α) :
    union a b = first (fun x n => if n < get b x then get b x else n) a ++ second (fun n => decide (0 < n)) (fun n => n) a b := rfl

/-- `&` and unary `+` have no second loop -/
theorem first_eq_append_nil (f : α → Int → Int) (a b : Counter α) :
    first f a = first f a ++ second (fun _ => false) (fun n => n) a b := by
  have : second (fun _ => false) (fun n => n) a b = [] :=
    List.filterMap_eq_nil_iff.2 fun e _ => by rw [Bool.and_false]; rfl
  rw [this, List.append_nil]

theorem inter_eq (a b : Counter α) : inter a b = first (fun x n => if n < get b x then n else get b x) a := rfl

theorem pos_eq (a : Counter α) : pos a = first (fun _ n => n) a := rfl

/-- unary `-` is the second loop of `-` run on an empty `self`; the two spell the test `count < 0` differently -/
theorem neg_eq_sub_nil (a : Counter α) : neg a = sub ([] : Counter α) a :=
  congrArg (List.filterMap · a) (funext fun e =>
    if_congr (decide_eq_true_iff.symm : e.2 < 0 ↔ (!has ([] : Counter α) e.1 && decide (e.2 < 0)) = true) rfl rfl)

/-! ### the operators are pointwise -/

theorem ite_lt_eq_max (n m : Int) : (if n < m then m else n) = max n m := by
  split_ifs with h
  · exact (max_eq_right h.le).symm
  · exact (max_eq_left (not_lt.1 h)).symm

theorem ite_lt_eq_min (n m : Int) : (if n < m then n else m) = min n m := by
  split_ifs with h
  · exact (min_eq_left h.le).symm
  · exact (min_eq_right (not_lt.1 h)).symm

/-- the second loop of `+` and `|`: a positive count of the operand is stored as it is -/
theorem ite_pos_eq_max (m : Int) : (if decide (0 < m) = true then m else 0) = max 0 m := by
  simp only [decide_eq_true_eq]; exact ite_lt_eq_max 0 m

theorem get_add {a b : Counter α} (ha : (keys a).Nodup) (hb : (keys b).Nodup) (x : α) :
    get (add a b) x = max 0 (get a x + get b x) := by
  rw [add_eq]
  exact get_binop (fun n m => n + m) ha hb rfl (fun _ _ => rfl) (fun m => by rw [zero_add, ite_pos_eq_max]) x

theorem get_sub {a b : Counter α} (ha : (keys a).Nodup) (hb : (keys b).Nodup) (x : α) :
    get (sub a b) x = max 0 (get a x - get b x) := by
  rw [sub_eq]
  refine get_binop (fun n m => n - m) ha hb rfl (fun _ _ => rfl) (fun m => ?_) x
  -- a negative count of the operand is stored negated
  simp only [decide_eq_true_eq]
  exact (if_congr sub_pos.symm rfl rfl).trans (ite_lt_eq_max 0 (0 - m))

theorem get_union {a b : Counter α} (ha : (keys a).Nodup) (hb : (keys b).Nodup) (x : α) :
    get (union a b) x = max 0 (max (get a x) (get b x)) := by
  rw [union_eq]
  exact get_binop max ha hb rfl (fun _ _ => ite_lt_eq_max _ _)
    (fun m => by rw [ite_pos_eq_max, max_eq_right (le_max_left 0 m)]) x

theorem get_inter {a b : Counter α} (ha : (keys a).Nodup) (hb : (keys b).Nodup) (x : α) :
    get (inter a b) x = max 0 (min (get a x) (get b x)) := by
  rw [inter_eq, first_eq_append_nil _ a b]
  exact get_binop min ha hb rfl (fun _ _ => ite_lt_eq_min _ _)
    (fun m => by rw [if_neg Bool.false_ne_true, max_eq_left (min_le_left 0 m)]) x

theorem get_pos {a : Counter α} (ha : (keys a).Nodup) (x : α) : get (pos a) x = max 0 (get a x) := by
  rw [pos_eq, first_eq_append_nil _ a []]
  exact get_binop (fun n _ => n) ha keys_nil_nodup rfl (fun _ _ => rfl)
    (fun _ => by rw [if_neg Bool.false_ne_true, max_self]) x

theorem get_neg {a : Counter α} (ha : (keys a).Nodup) (x : α) : get (neg a) x = max 0 (0 - get a x) := by
  rw [neg_eq_sub_nil, get_sub keys_nil_nodup ha, get_of_not_mem (by intro h; cases h)]

/-! ### results have distinct keys and positive counts -/

theorem add_nodup {a b : Counter α} (ha : (keys a).Nodup) (hb : (keys b).Nodup) : (keys (add a b)).Nodup := by rw [add_eq]; exact binop_nodup ha hb
theorem sub_nodup {a b : Counter α} (ha : (keys a).Nodup) (hb : (keys b).Nodup) : (keys (sub a b)).Nodup := by rw [sub_eq]; exact binop_nodup ha hb
theorem union_nodup {a b : Counter α} (ha : (keys a).Nodup) (hb : (keys b).Nodup) : (keys (union a b)).Nodup := by rw [union_eq]; exact binop_nodup ha hb
theorem inter_nodup {a b : Counter α} (ha : (keys a).Nodup) : (keys (inter a b)).Nodup := by rw [inter_eq]; exact (keys_first_sublist _ a).nodup ha

theorem add_positive (a b : Counter α) : ∀ e ∈ add a b, 0 < e.2 :=
  add_eq a b ▸ binop_positive fun _ h => of_decide_eq_true h

theorem sub_positive (a b : Counter α) : ∀ e ∈ sub a b, 0 < e.2 :=
  sub_eq a b ▸ binop_positive fun n h => by have := of_decide_eq_true h; omega

theorem union_positive (a b : Counter α) : ∀ e ∈ union a b, 0 < e.2 :=
  union_eq a b ▸ binop_positive fun _ h => of_decide_eq_true h

theorem inter_positive (a b : Counter α) : ∀ e ∈ inter a b, 0 < e.2 := by
  rintro ⟨x, m⟩ h
  obtain ⟨_, _, hp, rfl⟩ := mem_first.1 (inter_eq a b ▸ h)
  exact hp

/-! ### where the keys of a result come from -/

theorem add_support {a b : Counter α} {x : α} (h : x ∈ keys (add a b)) :
    x ∈ keys a ∨ ∃ n, (x, n) ∈ b ∧ 0 < n :=
  (binop_support (add_eq a b ▸ h)).imp_right fun ⟨n, hn, hq⟩ => ⟨n, hn, of_decide_eq_true hq⟩

/-- `a - b` holds keys of `a`, and the keys of `b` that `a` lacks and `b` maps to a NEGATIVE count -/
theorem sub_support {a b : Counter α} {x : α} (h : x ∈ keys (sub a b)) :
    x ∈ keys a ∨ ∃ n, (x, n) ∈ b ∧ n < 0 :=
  (binop_support (sub_eq a b ▸ h)).imp_right fun ⟨n, hn, hq⟩ => ⟨n, hn, of_decide_eq_true hq⟩

theorem union_support {a b : Counter α} {x : α} (h : x ∈ keys (union a b)) :
    x ∈ keys a ∨ ∃ n, (x, n) ∈ b ∧ 0 < n :=
  (binop_support (union_eq a b ▸ h)).imp_right fun ⟨n, hn, hq⟩ => ⟨n, hn, of_decide_eq_true hq⟩

theorem inter_support {a b : Counter α} {x : α} (h : x ∈ keys (inter a b)) : x ∈ keys a ∧ x ∈ keys b := by
  obtain ⟨m, hm⟩ := mem_keys.1 h
  obtain ⟨n, hn, hp, _⟩ := mem_first.1 (inter_eq a b ▸ hm)
  refine ⟨mem_keys.2 ⟨n, hn⟩, mem_keys_of_get_ne_zero fun h0 => ?_⟩
  -- with `b[x] = 0` the minimum kept by the first loop would not be positive
  rw [h0] at hp
  split_ifs at hp <;> omega

theorem pos_support {a : Counter α} {x : α} (h : x ∈ keys (pos a)) : x ∈ keys a :=
  (keys_first_sublist _ a).subset (pos_eq a ▸ h)

theorem neg_support {a : Counter α} {x : α} (h : x ∈ keys (neg a)) : x ∈ keys a := by
  rw [neg_eq_sub_nil] at h
  rcases sub_support h with h | ⟨n, hn, _⟩
  · cases h
  · exact mem_keys.2 ⟨n, hn⟩

/-! ### ballots of the right type -/

section valid
variable (valid : α → Bool)

theorem valid_of_support {c a b : Counter α} {P : Int → Prop}
    (hc : ∀ x ∈ keys c, x ∈ keys a ∨ ∃ n, (x, n) ∈ b ∧ P n)
    (ha : ∀ x ∈ keys a, valid x = true) (hb : ∀ x ∈ keys b, valid x = true) : ∀ x ∈ keys c, valid x = true := by
  intro x h
  rcases hc x h with h | ⟨n, hn, _⟩
  · exact ha x h
  · exact hb x (mem_keys.2 ⟨n, hn⟩)

theorem add_valid {a b : Counter α} (ha : ∀ x ∈ keys a, valid x = true) (hb : ∀ x ∈ keys b, valid x = true) :
    ∀ x ∈ keys (add a b), valid x = true :=
  valid_of_support valid (fun _ => add_support) ha hb

theorem sub_valid {a b : Counter α} (ha : ∀ x ∈ keys a, valid x = true) (hb : ∀ x ∈ keys b, valid x = true) :
    ∀ x ∈ keys (sub a b), valid x = true :=
  valid_of_support valid (fun _ => sub_support) ha hb

theorem union_valid {a b : Counter α} (ha : ∀ x ∈ keys a, valid x = true) (hb : ∀ x ∈ keys b, valid x = true) :
    ∀ x ∈ keys (union a b), valid x = true :=
  valid_of_support valid (fun _ => union_support) ha hb

/-- `&`, whatever the operand holds -/
theorem inter_valid_left {a b : Counter α} (ha : ∀ x ∈ keys a, valid x = true) : ∀ x ∈ keys (inter a b), valid x = true :=
  fun x h => ha x (inter_support h).1

theorem pos_valid {a : Counter α} (ha : ∀ x ∈ keys a, valid x = true) : ∀ x ∈ keys (pos a), valid x = true :=
  fun x h => ha x (pos_support h)

theorem neg_valid {a : Counter α} (ha : ∀ x ∈ keys a, valid x = true) : ∀ x ∈ keys (neg a), valid x = true :=
  fun x h => ha x (neg_support h)

/-- `-` only returns keys of `self` when the operand has no negative count (e.g. when it is itself the result of an operator) -/
theorem sub_valid_of_nonneg {a b : Counter α} (ha : ∀ x ∈ keys a, valid x = true) (hb : ∀ e ∈ b, 0 ≤ e.2) :
    ∀ x ∈ keys (sub a b), valid x = true := by
  intro x h
  rcases sub_support h with h | ⟨n, hn, hneg⟩
  · exact ha x h
  · exact absurd hneg (not_lt.2 (hb (x, n) hn))

/-! ### the wrapper of `_wrap_methods` -/

theorem wrapped_sound {op : Counter α → Counter α → Counter α} {a b r : Counter α}
    (h : wrapped valid op a b = .ok r) : r = op a b ∧ ∀ x ∈ keys r, valid x = true := by
  unfold wrapped validate at h
  by_cases hv : (keys (op a b)).all valid = true
  · rw [if_pos hv] at h
    injection h with h
    subst h
    exact ⟨rfl, fun x hx => List.all_eq_true.1 hv x hx⟩
  · rw [if_neg hv] at h; cases h

theorem wrapped_refuses {op : Counter α → Counter α → Counter α} {a b : Counter α}
    (h : ∃ x ∈ keys (op a b), valid x = false) : wrapped valid op a b = .error .type := by
  unfold wrapped validate
  rw [if_neg]
  intro hv
  obtain ⟨x, hx, hf⟩ := h
  have := List.all_eq_true.1 hv x hx
  rw [hf] at this
  cases this

theorem wrapped_ok {op : Counter α → Counter α → Counter α} {a b : Counter α}
    (h : ∀ x ∈ keys (op a b), valid x = true) : wrapped valid op a b = .ok (op a b) := by
  unfold wrapped validate
  rw [if_pos (List.all_eq_true.2 h)]

/-- with operands of the right type the four wrapped operators return (they never raise), and return the plain result -/
theorem wrapped_total {a b : Counter α} (ha : ∀ x ∈ keys a, valid x = true) (hb : ∀ x ∈ keys b, valid x = true) :
    wrapped valid add a b = .ok (add a b) ∧ wrapped valid sub a b = .ok (sub a b) ∧
    wrapped valid union a b = .ok (union a b) ∧ wrapped valid inter a b = .ok (inter a b) :=
  ⟨wrapped_ok valid (add_valid valid ha hb), wrapped_ok valid (sub_valid valid ha hb),
   wrapped_ok valid (union_valid valid ha hb), wrapped_ok valid (inter_valid_left valid ha)⟩

end valid

theorem intruder : (∀ x ∈ keys ([(0, 2)] : Counter Nat), decide (x < 5) = true) ∧
    7 ∈ keys (sub ([(0, 2)] : Counter Nat) [(7, -1)]) := by decide +kernel

/-- `-` is not closed on valid counters when the operand has a negative count: a valid counter minus `{7: -1}` holds 7 -/
theorem sub_not_closed :
    ∃ (a b : Counter Nat) (valid : Nat → Bool), (∀ x ∈ keys a, valid x = true) ∧ (keys a).Nodup ∧ (keys b).Nodup ∧
      ¬ ∀ x ∈ keys (sub a b), valid x = true :=
  ⟨[(0, 2)], [(7, -1)], fun x => decide (x < 5), intruder.1, by decide, by decide,
    fun h => absurd (h 7 intruder.2) (by decide)⟩

/-- Without the re-validation, `validated_multiprofile - Counter({wrong_typed_ballot: -1})` is a multiprofile that holds the
    wrong-typed ballot; the wrapper refuses exactly this input.  (Seeded change C17-r6A, as a statement about the model.) -/
theorem unwrapped_sub_admits_intruder :
    ∃ (a b : Counter Nat) (valid : Nat → Bool), (∀ x ∈ keys a, valid x = true) ∧
      (∃ r, unwrapped sub a b = .ok r ∧ ∃ x ∈ keys r, valid x = false) ∧
      wrapped valid sub a b = .error .type :=
  ⟨[(0, 2)], [(7, -1)], fun x => decide (x < 5), intruder.1, ⟨_, rfl, 7, intruder.2, rfl⟩,
    wrapped_refuses _ ⟨7, intruder.2, rfl⟩⟩

/-! ### non-vacuity: the pointwise laws on a concrete pair with zero and negative counts -/

example : add ([(1, 2), (2, -3), (3, 0)] : Counter Nat) [(2, 5), (4, 1), (5, -2), (1, -2)] = [(2, 2), (4, 1)] := by decide +kernel
example : sub ([(1, 2), (2, -3), (3, 0)] : Counter Nat) [(2, 5), (4, 1), (5, -2), (1, -2)] = [(1, 4), (5, 2)] := by decide +kernel
example : union ([(1, 2), (2, -3), (3, 0)] : Counter Nat) [(2, 5), (4, 1), (5, -2), (1, -2)] = [(1, 2), (2, 5), (4, 1)] := by decide +kernel
example : inter ([(1, 2), (2, 3), (3, 0)] : Counter Nat) [(2, 5), (4, 1), (1, 1)] = [(1, 1), (2, 3)] := by decide +kernel
example : neg ([(1, 2), (2, -3), (3, 0)] : Counter Nat) = [(2, 3)] ∧ pos ([(1, 2), (2, -3), (3, 0)] : Counter Nat) = [(1, 2)] := by decide +kernel

end CounterArith
end Pabu
