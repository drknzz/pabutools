/-
  C15 — instance predicates agree with brute force over subsets.
  The model functions (`PabuModel.Election`) are characterised by quantified statements over sub-lists.
-/
import PabuProofs.Lemmas.Election
import Mathlib.Tactic.NormNum
namespace Pabu.C15
open Election

/-- `is_feasible`: exactly "total cost within the budget" -/
theorem isFeasible_iff (I : Inst) (l : List Pid) : I.isFeasible l = true ↔ costOf I.cost l ≤ I.budget :=
  I.isFeasible_iff l

/-- `is_exhaustive(projects, available)`: no available project outside `l` fits on top of `l` -/
theorem isExhaustiveOver_iff (I : Inst) (avail l : List Pid) :
    I.isExhaustiveOver avail l = true ↔ ∀ p ∈ avail, p ∉ l → I.budget < I.cost p + costOf I.cost l := by
  unfold Inst.isExhaustiveOver Inst.totalCost
  rw [List.all_eq_true]
  refine forall₂_congr fun p _ => ?_
  rw [Bool.or_eq_true, List.contains_iff_mem, Bool.not_eq_true', decide_eq_false_iff_not, not_le,
    or_iff_not_imp_left]

theorem isExhaustive_iff (I : Inst) (l : List Pid) :
    I.isExhaustive l = true ↔ ∀ p ∈ I.projects, p ∉ l → I.budget < I.cost p + costOf I.cost l :=
  isExhaustiveOver_iff I I.projects l

/-- `budget_allocations()` yields exactly the feasible sub-lists -/
theorem budgetAllocations_spec (I : Inst) (x : List Pid) :
    x ∈ I.budgetAllocations ↔ x.Sublist I.projects ∧ costOf I.cost x ≤ I.budget := by
  unfold Inst.budgetAllocations
  rw [List.mem_filter, mem_sublists, isFeasible_iff]

/-- each exactly once -/
theorem budgetAllocations_nodup (I : Inst) (h : I.projects.Nodup) : I.budgetAllocations.Nodup :=
  (sublists_nodup h).filter _

/-- `is_trivial()`: everything fits, or no single project fits -/
theorem isTrivial_iff (I : Inst) :
    I.isTrivial = true ↔ (costOf I.cost I.projects ≤ I.budget ∨ ∀ p ∈ I.projects, I.budget < I.cost p) := by
  rw [I.isTrivial_eq, Bool.or_eq_true, decide_eq_true_iff, List.all_eq_true]
  simp only [decide_eq_true_iff]
  rfl

theorem no_project_fits_iff (I : Inst) (hnn : ∀ p ∈ I.projects, 0 ≤ I.cost p) :
    (∀ p ∈ I.projects, I.budget < I.cost p) ↔
      ∀ l : List Pid, l.Sublist I.projects → l ≠ [] → ¬ costOf I.cost l ≤ I.budget := by
  constructor
  · intro h l hl hne
    obtain ⟨p, hp⟩ := List.exists_mem_of_ne_nil l hne
    have hle := le_sumOver_of_mem (f := I.cost) (fun q hq => hnn q (hl.subset hq)) hp
    exact not_le.mpr (lt_of_lt_of_le (h p (hl.subset hp)) hle)
  · intro h p hp
    simpa using h [p] (List.singleton_sublist.mpr hp) (List.cons_ne_nil p [])

theorem all_fit_iff (I : Inst) (hnn : ∀ p ∈ I.projects, 0 ≤ I.cost p) :
    costOf I.cost I.projects ≤ I.budget ↔ ∀ l : List Pid, l.Sublist I.projects → costOf I.cost l ≤ I.budget :=
  ⟨fun h _ hl => le_trans (sumOver_sublist_le hl hnn) h, fun h => h _ (List.Sublist.refl _)⟩

/-- C15, triviality: an instance is trivial exactly when every sub-list is feasible or no non-empty one is -/
theorem isTrivial_iff_all_or_none (I : Inst) (hnn : ∀ p ∈ I.projects, 0 ≤ I.cost p) :
    I.isTrivial = true ↔
      ((∀ l : List Pid, l.Sublist I.projects → costOf I.cost l ≤ I.budget) ∨
       (∀ l : List Pid, l.Sublist I.projects → l ≠ [] → ¬ costOf I.cost l ≤ I.budget)) := by
  rw [isTrivial_iff, all_fit_iff I hnn, no_project_fits_iff I hnn]

/-- C15/C10, cheapest-first count = size of a largest feasible sub-list (non-negative costs and budget) -/
theorem maxCardinality_optimal (cost : Pid → Rat) (l : List Pid) (budget : Rat)
    (hnn : ∀ p ∈ l, 0 ≤ cost p) (hb : 0 ≤ budget) :
    (∃ s : List Pid, s.Sublist l ∧ costOf cost s ≤ budget ∧ s.length = maxCardinality cost l budget) ∧
    (∀ s : List Pid, s.Sublist l → costOf cost s ≤ budget → s.length ≤ maxCardinality cost l budget) :=
  ⟨maxCardinality_attained cost l budget hb, maxCardinality_upper cost l budget hnn⟩

theorem maxCostSpec_spec (cost : Pid → Rat) (l : List Pid) (budget : Rat) (hb : 0 ≤ budget) :
    (∃ s : List Pid, s.Sublist l ∧ costOf cost s ≤ budget ∧ maxCostSpec cost l budget = costOf cost s) ∧
    (∀ s : List Pid, s.Sublist l → costOf cost s ≤ budget → costOf cost s ≤ maxCostSpec cost l budget) :=
  maxCostSpec_isMax cost l budget hb

theorem maxScoreSpec_spec (cost score : Pid → Rat) (l : List Pid) (budget : Rat) (hb : 0 ≤ budget) :
    (∃ s : List Pid, s.Sublist l ∧ costOf cost s ≤ budget ∧ maxScoreSpec cost score l budget = sumOver s score) ∧
    (∀ s : List Pid, s.Sublist l → costOf cost s ≤ budget → sumOver s score ≤ maxScoreSpec cost score l budget) :=
  maxScoreSpec_isMax cost score l budget hb

/-! ### concrete inputs -/

/-- three projects costing 2, 3 and 1/2, budget 2 -/
def exInst : Inst :=
  { projects := [0, 1, 2], cost := fun p => if p = 0 then 2 else if p = 1 then 3 else 1 / 2, budget := 2 }

theorem exInst_nonneg : ∀ p ∈ exInst.projects, 0 ≤ exInst.cost p := by
  intro p _
  simp only [exInst]
  split_ifs <;> norm_num

example : exInst.projects.Nodup := by decide
example : (0 : Rat) ≤ exInst.budget := by norm_num [exInst]
example := isTrivial_iff_all_or_none exInst exInst_nonneg
example := maxCardinality_optimal exInst.cost exInst.projects exInst.budget exInst_nonneg (by norm_num [exInst])
example := budgetAllocations_nodup exInst (by decide)

-- budget 2, costs 2 and 3: exactly the cheapest project fits, the instance is not trivial (D18)
example : ({ projects := [0, 1], cost := fun p => if p = 0 then 2 else 3, budget := 2 } : Inst).isTrivial = false := by
  decide +kernel
example : exInst.isFeasible [0] = true ∧ exInst.isFeasible [0, 2] = false ∧ exInst.isExhaustive [0] = true := by
  decide +kernel
example : exInst.budgetAllocations = [[], [2], [0]] := by decide +kernel
example : maxCardinality exInst.cost exInst.projects (5 / 2) = 2 := by decide +kernel
-- 1/3 + 1/3 under budget 2/3 is exactly 2/3 (D9)
example : maxCostSpec (fun _ => 1 / 3) [0, 1] (2 / 3) = 2 / 3 := by decide +kernel

end Pabu.C15
