/-
  Lemmas about the CSV text layer (PabuModel/Csv.lean): the reader's state machine run over what the writer
  emits, field by field, row by row.
-/
import PabuModel.Csv
namespace Pabu.Csv
open Pabu.Pabulib

/-- a character the writer does not quote a field for and that does not end a line -/
def Plain (c : Char) : Prop := c ≠ ';' ∧ c ≠ '"' ∧ c ≠ '\n' ∧ c ≠ '\r'

theorem isNl_false {c : Char} (h1 : c ≠ '\n') (h2 : c ≠ '\r') : isNl c = false := by
  simp [isNl, h1, h2]

/-! ### one step of `run` -/

theorem run_ok {lim : Nat} {s s' : RSt} {c : Char} {rest : List Char} (h : stepChar lim s c = .ok s') :
    run lim s (c :: rest) = run lim (afterChar s' c rest) rest := by
  rw [run, h]

theorem run_err {lim : Nat} {s : RSt} {c : Char} {rest : List Char} {e : CsvErr} (h : stepChar lim s c = .error e) :
    run lim s (c :: rest) = (s, some e) := by
  rw [run, h]

theorem afterChar_mid {s : RSt} {c : Char} {rest : List Char} (h1 : c ≠ '\n') (h2 : c ≠ '\r') (h3 : rest ≠ []) :
    afterChar s c rest = s := by
  cases rest with
  | nil => exact absurd rfl h3
  | cons a r => simp [afterChar, eolAfter, h1, h2]

theorem afterChar_inQuoted {F : List Str} {cur : Str} {len : Nat} {R : List (List Str)} {c : Char} {rest : List Char} :
    afterChar ⟨.inQuoted, F, cur, len, R⟩ c rest = ⟨.inQuoted, F, cur, len, R⟩ := by
  unfold afterChar
  split <;> rfl

theorem afterChar_nl {s : RSt} {rest : List Char} : afterChar s '\n' rest = stepEol s := by
  simp [afterChar, eolAfter]

/-! ### the end of a field -/

/-- the state after the terminator `t` of field `f`: `;` starts the next field, the line terminator ends the record -/
def afterField (t : Char) (F : List Str) (f : Str) (R : List (List Str)) : RSt :=
  if t = ';' then ⟨.startField, f :: F, [], 0, R⟩ else ⟨.startRecord, [], [], 0, (f :: F).reverse :: R⟩

/-- the three states in which the writer's text leaves the machine at the end of a field -/
def FieldEnd (m : Mode) (cur : Str) (len : Nat) : Prop :=
  m = .inField ∨ m = .quoteInQuoted ∨ (m = .startField ∧ cur = [] ∧ len = 0)

theorem run_term {lim : Nat} {F : List Str} {cur : Str} {len : Nat} {R : List (List Str)} {t : Char} {rest : List Char}
    {m : Mode} (hm : FieldEnd m cur len) (ht : (t = ';' ∧ rest ≠ []) ∨ t = '\n') :
    run lim ⟨m, F, cur, len, R⟩ (t :: rest) = run lim (afterField t F cur.reverse R) rest := by
  have hstep : stepChar lim ⟨m, F, cur, len, R⟩ t =
      .ok ⟨if t = ';' then .startField else .eatCrnl, cur.reverse :: F, [], 0, R⟩ := by
    rcases hm with rfl | rfl | ⟨rfl, rfl, rfl⟩ <;> rcases ht with ⟨rfl, _⟩ | rfl <;>
      simp [stepChar, stepStartField, quote, delim, isNl, saveField]
  rw [run_ok hstep]
  rcases ht with ⟨rfl, hr⟩ | rfl
  · rw [afterChar_mid (by decide) (by decide) hr]
    rfl
  · rw [afterChar_nl]
    rfl

/-! ### unquoted fields -/

theorem step_inField_plain {lim : Nat} {F : List Str} {cur : Str} {len : Nat} {R : List (List Str)} {c : Char}
    (hc : Plain c) (hl : len < lim) :
    stepChar lim ⟨.inField, F, cur, len, R⟩ c = .ok ⟨.inField, F, c :: cur, len + 1, R⟩ := by
  obtain ⟨h1, _, h3, h4⟩ := hc
  simp [stepChar, delim, isNl_false h3 h4, h1, addChar, Nat.not_le.mpr hl]

theorem run_inField_plain {lim : Nat} {F : List Str} {R : List (List Str)} {rest : List Char} (hr : rest ≠ []) :
    ∀ (f cur : Str) (len : Nat), (∀ c ∈ f, Plain c) → len + f.length ≤ lim →
      run lim ⟨.inField, F, cur, len, R⟩ (f ++ rest) = run lim ⟨.inField, F, f.reverse ++ cur, len + f.length, R⟩ rest := by
  intro f
  induction f with
  | nil => intro cur len _ _; simp
  | cons c f ih =>
    intro cur len hp hl
    have hc : Plain c := hp c (by simp)
    simp only [List.length_cons] at hl
    rw [List.cons_append, run_ok (step_inField_plain hc (Nat.lt_of_lt_of_le (Nat.lt_add_of_pos_right (Nat.succ_pos _)) hl)),
      afterChar_mid hc.2.2.1 hc.2.2.2 (by simp [hr])]
    rw [ih (c :: cur) (len + 1) (fun x hx => hp x (by simp [hx])) (by rwa [Nat.add_assoc, Nat.add_comm 1])]
    simp only [List.reverse_cons, List.append_assoc, List.singleton_append, List.length_cons]
    rw [Nat.add_assoc, Nat.add_comm 1]

theorem step_startField_plain {lim : Nat} {F : List Str} {R : List (List Str)} {c : Char} (hc : Plain c) (hl : 0 < lim) :
    stepChar lim ⟨.startField, F, [], 0, R⟩ c = .ok ⟨.inField, F, [c], 1, R⟩ := by
  obtain ⟨h1, h2, h3, h4⟩ := hc
  simp [stepChar, quote, delim, stepStartField, isNl_false h3 h4, h1, h2, addChar, Nat.not_le.mpr hl]

theorem step_startField_delim {lim : Nat} {F : List Str} {R : List (List Str)} :
    stepChar lim ⟨.startField, F, [], 0, R⟩ ';' = .ok ⟨.startField, [] :: F, [], 0, R⟩ := by
  simp [stepChar, quote, delim, stepStartField, isNl, saveField]

theorem run_unquoted {lim : Nat} {F : List Str} {R : List (List Str)} {t : Char} {rest : List Char}
    (ht : (t = ';' ∧ rest ≠ []) ∨ t = '\n') (f : Str) (hp : ∀ c ∈ f, Plain c) (hl : f.length ≤ lim) :
    run lim ⟨.startField, F, [], 0, R⟩ (f ++ t :: rest) = run lim (afterField t F f R) rest := by
  cases f with
  | nil => exact run_term (Or.inr (Or.inr ⟨rfl, rfl, rfl⟩)) ht
  | cons c f =>
    have hc : Plain c := hp c (by simp)
    simp only [List.length_cons] at hl
    rw [List.cons_append, run_ok (step_startField_plain hc (Nat.lt_of_lt_of_le (Nat.succ_pos _) hl)),
      afterChar_mid hc.2.2.1 hc.2.2.2 (by simp),
      run_inField_plain (by simp) f [c] 1 (fun x hx => hp x (by simp [hx])) (by rwa [Nat.add_comm]), run_term (Or.inl rfl) ht]
    simp

/-! ### quoted fields -/

theorem step_startField_quote {lim : Nat} {F : List Str} {R : List (List Str)} :
    stepChar lim ⟨.startField, F, [], 0, R⟩ '"' = .ok ⟨.inQuoted, F, [], 0, R⟩ := by
  simp [stepChar, quote, stepStartField, isNl]

theorem step_inQuoted_quote {lim : Nat} {F : List Str} {cur : Str} {len : Nat} {R : List (List Str)} :
    stepChar lim ⟨.inQuoted, F, cur, len, R⟩ '"' = .ok ⟨.quoteInQuoted, F, cur, len, R⟩ := by
  simp [stepChar, quote]

theorem step_inQuoted_other {lim : Nat} {F : List Str} {cur : Str} {len : Nat} {R : List (List Str)} {c : Char}
    (hc : c ≠ '"') (hl : len < lim) :
    stepChar lim ⟨.inQuoted, F, cur, len, R⟩ c = .ok ⟨.inQuoted, F, c :: cur, len + 1, R⟩ := by
  simp [stepChar, quote, hc, addChar, Nat.not_le.mpr hl]

theorem step_quoteInQuoted_quote {lim : Nat} {F : List Str} {cur : Str} {len : Nat} {R : List (List Str)} (hl : len < lim) :
    stepChar lim ⟨.quoteInQuoted, F, cur, len, R⟩ '"' = .ok ⟨.inQuoted, F, '"' :: cur, len + 1, R⟩ := by
  simp [stepChar, quote, addChar, Nat.not_le.mpr hl]

/-- the body of a quoted field: every character is taken as it is, `""` is one quote -/
theorem run_inQuoted_body {lim : Nat} {F : List Str} {R : List (List Str)} {rest : List Char} :
    ∀ (f cur : Str) (len : Nat), len + f.length ≤ lim →
      run lim ⟨.inQuoted, F, cur, len, R⟩ (doubleQuotes f ++ rest) =
        run lim ⟨.inQuoted, F, f.reverse ++ cur, len + f.length, R⟩ rest := by
  intro f
  induction f with
  | nil => intro cur len _; simp [doubleQuotes]
  | cons c f ih =>
    intro cur len hl
    simp only [List.length_cons] at hl
    have hfin : run lim ⟨.inQuoted, F, f.reverse ++ (c :: cur), len + 1 + f.length, R⟩ rest =
        run lim ⟨.inQuoted, F, (c :: f).reverse ++ cur, len + (c :: f).length, R⟩ rest := by
      simp only [List.reverse_cons, List.append_assoc, List.singleton_append, List.length_cons]
      rw [Nat.add_assoc, Nat.add_comm 1]
    have hlt : len < lim := Nat.lt_of_lt_of_le (Nat.lt_add_of_pos_right (Nat.succ_pos _)) hl
    have hle : len + 1 + f.length ≤ lim := by rwa [Nat.add_assoc, Nat.add_comm 1]
    by_cases hc : c = '"'
    · subst hc
      have hd : doubleQuotes ('"' :: f) = '"' :: '"' :: doubleQuotes f := by simp [doubleQuotes]
      rw [hd, List.cons_append, List.cons_append, run_ok step_inQuoted_quote,
        afterChar_mid (by decide) (by decide) (by simp),
        run_ok (step_quoteInQuoted_quote hlt), afterChar_inQuoted, ih _ _ hle, hfin]
    · have hd : doubleQuotes (c :: f) = c :: doubleQuotes f := by simp [doubleQuotes, hc]
      rw [hd, List.cons_append, run_ok (step_inQuoted_other hc hlt), afterChar_inQuoted, ih _ _ hle, hfin]

theorem run_quoted {lim : Nat} {F : List Str} {R : List (List Str)} {t : Char} {rest : List Char}
    (ht : (t = ';' ∧ rest ≠ []) ∨ t = '\n') (f : Str) (hl : f.length ≤ lim) :
    run lim ⟨.startField, F, [], 0, R⟩ (('"' :: (doubleQuotes f ++ ['"'])) ++ t :: rest) =
      run lim (afterField t F f R) rest := by
  rw [List.cons_append, List.append_assoc, run_ok step_startField_quote, afterChar_inQuoted,
    run_inQuoted_body f [] 0 (by rwa [Nat.zero_add]), List.singleton_append, run_ok step_inQuoted_quote,
    afterChar_mid (by decide) (by decide) (by simp), run_term (Or.inr (Or.inl rfl)) ht]
  simp

/-! ### fields as the writer emits them -/

theorem plain_of_fieldOK {lim : Nat} {f : Str} (hok : FieldOK lim f = true) (hq : needsQuote f = false) :
    ∀ c ∈ f, Plain c := by
  intro c hc
  simp only [FieldOK, Bool.and_eq_true, Bool.or_eq_true, Bool.not_eq_true', hq, Bool.false_eq_true, or_false,
    decide_eq_true_eq] at hok
  have hcr : c ≠ '\r' := by
    intro h
    subst h
    have := hok.2
    simp at this
    exact this hc
  simp only [needsQuote, List.any_eq_false, Bool.or_eq_true, beq_iff_eq, not_or] at hq
  have := hq c hc
  exact ⟨this.1.1, this.1.2, this.2, hcr⟩

theorem length_of_fieldOK {lim : Nat} {f : Str} (hok : FieldOK lim f = true) : f.length ≤ lim := by
  simp only [FieldOK, Bool.and_eq_true, decide_eq_true_eq] at hok
  exact hok.1

theorem run_field {lim : Nat} {F : List Str} {R : List (List Str)} {t : Char} {rest : List Char}
    (ht : (t = ';' ∧ rest ≠ []) ∨ t = '\n') (f : Str) (hok : FieldOK lim f = true) :
    run lim ⟨.startField, F, [], 0, R⟩ (writeField f ++ t :: rest) = run lim (afterField t F f R) rest := by
  unfold writeField
  by_cases hq : needsQuote f = true
  · rw [if_pos hq]
    exact run_quoted ht f (length_of_fieldOK hok)
  · rw [if_neg hq]
    exact run_unquoted ht f (plain_of_fieldOK hok (by simpa using hq)) (length_of_fieldOK hok)

theorem run_fields {lim : Nat} {R : List (List Str)} {rest : List Char} :
    ∀ (fs : List Str) (F : List Str), fs ≠ [] → (∀ f ∈ fs, FieldOK lim f = true) →
      run lim ⟨.startField, F, [], 0, R⟩ (writeFields fs ++ '\n' :: rest) =
        run lim ⟨.startRecord, [], [], 0, (F.reverse ++ fs) :: R⟩ rest := by
  intro fs
  induction fs with
  | nil => intro F h; exact absurd rfl h
  | cons f fs ih =>
    intro F _ hok
    cases fs with
    | nil =>
      rw [writeFields, run_field (Or.inr rfl) f (hok f (by simp))]
      simp [afterField]
    | cons g r =>
      rw [writeFields, List.append_assoc, List.cons_append,
        run_field (Or.inl ⟨rfl, by simp⟩) f (hok f (by simp)), show afterField ';' F f R = ⟨.startField, f :: F, [], 0, R⟩ from rfl,
        ih (f :: F) (by simp) (fun x hx => hok x (by simp [hx]))]
      simp

/-! ### rows -/

theorem stepEol_eatCrnl {F : List Str} {R : List (List Str)} :
    stepEol ⟨.eatCrnl, F, [], 0, R⟩ = ⟨.startRecord, [], [], 0, F.reverse :: R⟩ := by
  simp [stepEol, yieldRow]

/-- START_RECORD treats a character that is not a line break as START_FIELD does -/
theorem run_startRecord {lim : Nat} {R : List (List Str)} {c : Char} {rest : List Char}
    (hc : c = ';' ∨ c = '"' ∨ (Plain c ∧ 0 < lim)) :
    run lim ⟨.startRecord, [], [], 0, R⟩ (c :: rest) = run lim ⟨.startField, [], [], 0, R⟩ (c :: rest) := by
  rcases hc with rfl | rfl | ⟨hp, hl⟩
  · have e : stepChar lim ⟨.startRecord, [], [], 0, R⟩ ';' = .ok ⟨.startField, [] :: [], [], 0, R⟩ := by
      simp [stepChar, stepStartField, quote, delim, isNl, saveField]
    rw [run_ok e, run_ok step_startField_delim]
  · have e : stepChar lim ⟨.startRecord, [], [], 0, R⟩ '"' = .ok ⟨.inQuoted, [], [], 0, R⟩ := by
      simp [stepChar, stepStartField, quote, isNl]
    rw [run_ok e, run_ok step_startField_quote]
  · obtain ⟨h1, h2, h3, h4⟩ := hp
    have e : stepChar lim ⟨.startRecord, [], [], 0, R⟩ c = .ok ⟨.inField, [], [c], 1, R⟩ := by
      simp [stepChar, stepStartField, quote, delim, isNl_false h3 h4, h1, h2, addChar, Nat.not_le.mpr hl]
    rw [run_ok e, run_ok (step_startField_plain ⟨h1, h2, h3, h4⟩ hl)]

/-- the first character of a written row that is neither `[]` nor `[""]` -/
theorem writeFields_head {lim : Nat} {f : Str} {fs : List Str} {rest : List Char}
    (hok : FieldOK lim f = true) (hne : ¬ (f = [] ∧ fs = [])) :
    ∃ c tl, writeFields (f :: fs) ++ '\n' :: rest = c :: tl ∧ (c = ';' ∨ c = '"' ∨ (Plain c ∧ 0 < lim)) := by
  cases f with
  | nil =>
    cases fs with
    | nil => exact absurd ⟨rfl, rfl⟩ hne
    | cons g r =>
      exact ⟨';', writeFields (g :: r) ++ '\n' :: rest, by simp [writeFields, writeField, needsQuote], Or.inl rfl⟩
  | cons c f =>
    by_cases hq : needsQuote (c :: f) = true
    · refine ⟨'"', ?_, ?_, Or.inr (Or.inl rfl)⟩
      · exact (doubleQuotes (c :: f) ++ ['"']) ++ (match fs with | [] => [] | g :: r => ';' :: writeFields (g :: r)) ++ '\n' :: rest
      · cases fs <;> simp [writeFields, writeField, hq]
    · have hp := plain_of_fieldOK hok (by simpa using hq) c (by simp)
      have hl := length_of_fieldOK hok
      simp only [List.length_cons] at hl
      refine ⟨c, ?_, ?_, Or.inr (Or.inr ⟨hp, Nat.lt_of_lt_of_le (Nat.succ_pos _) hl⟩)⟩
      · exact f ++ (match fs with | [] => [] | g :: r => ';' :: writeFields (g :: r)) ++ '\n' :: rest
      · cases fs <;> simp [writeFields, writeField, hq]

theorem run_row {lim : Nat} {R : List (List Str)} {rest : List Char} (r : List Str) (hok : ∀ f ∈ r, FieldOK lim f = true) :
    run lim ⟨.startRecord, [], [], 0, R⟩ (writeRow r ++ '\n' :: rest) = run lim ⟨.startRecord, [], [], 0, r :: R⟩ rest := by
  unfold writeRow
  by_cases h1 : r = [[]]
  · subst h1
    rw [if_pos rfl]
    have e1 : stepChar lim ⟨.startRecord, [], [], 0, R⟩ '"' = .ok ⟨.inQuoted, [], [], 0, R⟩ := by
      simp [stepChar, quote, stepStartField, isNl]
    rw [List.cons_append, List.cons_append, List.nil_append, run_ok e1, afterChar_inQuoted,
      run_ok step_inQuoted_quote, afterChar_mid (by decide) (by decide) (by simp),
      run_term (Or.inr (Or.inl rfl)) (Or.inr rfl)]
    rfl
  · rw [if_neg h1]
    cases r with
    | nil =>
      have e1 : stepChar lim ⟨.startRecord, [], [], 0, R⟩ '\n' = .ok ⟨.eatCrnl, [], [], 0, R⟩ := by
        simp [stepChar, isNl]
      rw [writeFields, List.nil_append, run_ok e1, afterChar_nl, stepEol_eatCrnl]
      rfl
    | cons f fs =>
      have hne : ¬ (f = [] ∧ fs = []) := by
        rintro ⟨rfl, rfl⟩; exact h1 rfl
      obtain ⟨c, tl, htxt, hc⟩ := writeFields_head (rest := rest) (hok f (by simp)) hne
      have := run_fields (lim := lim) (R := R) (rest := rest) (f :: fs) [] (by simp) hok
      rw [htxt] at this ⊢
      rw [run_startRecord hc, this]
      simp

theorem run_rows {lim : Nat} :
    ∀ (rows : List (List Str)) (R : List (List Str)), RowsOKL lim rows = true →
      run lim ⟨.startRecord, [], [], 0, R⟩ (csvWrite rows) = (⟨.startRecord, [], [], 0, rows.reverse ++ R⟩, none) := by
  intro rows
  induction rows with
  | nil => intro R _; simp [csvWrite, run]
  | cons r rs ih =>
    intro R hok
    simp only [RowsOKL, List.all_cons, Bool.and_eq_true] at hok
    have hr : ∀ f ∈ r, FieldOK lim f = true := by
      intro f hf
      exact (List.all_eq_true.mp hok.1) f hf
    rw [csvWrite, run_row r hr, ih (r :: R) (by simpa [RowsOKL] using hok.2)]
    simp

theorem csvReadL_csvWrite {lim : Nat} {rows : List (List Str)} (hok : RowsOKL lim rows = true) :
    csvReadL lim (csvWrite rows) = (rows, none) := by
  have h := run_rows (lim := lim) rows [] hok
  have hinit : ({} : RSt) = ⟨.startRecord, [], [], 0, []⟩ := rfl
  unfold csvReadL
  rw [hinit, h]
  simp [finishRows]

/-! ### the only error of the reader on lines of `io.StringIO(…, newline="")` is the field size limit -/

theorem run_limit (lim : Nat) :
    run lim ⟨.startRecord, [], [], 0, []⟩ (List.replicate (lim + 1) 'a' ++ ['\n']) =
      (⟨if lim = 0 then .startRecord else .inField, [], List.replicate lim 'a', lim, []⟩, some .fieldLimit) := by
  have hpa : Plain 'a' := ⟨by decide, by decide, by decide, by decide⟩
  cases lim with
  | zero =>
    have e : stepChar 0 ⟨.startRecord, [], [], 0, []⟩ 'a' = .error .fieldLimit := by
      simp [stepChar, quote, delim, stepStartField, isNl, addChar]
    rw [show List.replicate (0 + 1) 'a' ++ ['\n'] = 'a' :: ['\n'] from rfl, run_err e]
    rfl
  | succ n =>
    have hsplit : List.replicate (n + 1 + 1) 'a' ++ ['\n'] = 'a' :: (List.replicate n 'a' ++ ('a' :: ['\n'])) := by
      rw [List.replicate_succ, List.replicate_succ']
      simp
    have e : stepChar (n + 1) ⟨.inField, [], (List.replicate n 'a').reverse ++ ['a'], 1 + (List.replicate n 'a').length, []⟩ 'a'
        = .error .fieldLimit := by
      simp [stepChar, delim, isNl, addChar]
      omega
    rw [hsplit, run_startRecord (Or.inr (Or.inr ⟨hpa, Nat.succ_pos n⟩)), run_ok (step_startField_plain hpa (Nat.succ_pos n)),
      afterChar_mid (by decide) (by decide) (by simp),
      run_inField_plain (by simp) (List.replicate n 'a') ['a'] 1 (by intro c hc; rw [List.eq_of_mem_replicate hc]; exact hpa)
        (by simp; omega),
      run_err e]
    simp [List.replicate_succ']
    omega

/-- EAT_CRNL is only ever left pending between the `\r` and the `\n` of a `\r\n` -/
def CrnlInv (s : RSt) (rest : List Char) : Prop := s.mode = .eatCrnl → rest.head? = some '\n'

/-- what one step of the machine can do: the only error besides "field larger than field limit" is raised in
    EAT_CRNL on a character that is no line break, and EAT_CRNL is only entered on a line break -/
def StepOK (s : RSt) (c : Char) : Except CsvErr RSt → Prop
  | .error e => e = .fieldLimit ∨ (s.mode = .eatCrnl ∧ isNl c = false)
  | .ok s' => s'.mode = .eatCrnl → isNl c = true

theorem stepOK_addChar (lim : Nat) (s : RSt) (c : Char) {m : Mode} (hm : m ≠ .eatCrnl) :
    StepOK s c (addChar lim s m c) := by
  unfold addChar
  split
  · exact Or.inl rfl
  · exact fun h => absurd h hm

theorem stepOK_startField (lim : Nat) (s : RSt) (c : Char) : StepOK s c (stepStartField lim s c) := by
  unfold stepStartField
  repeat' split
  · exact fun _ => by assumption
  · exact fun h => nomatch h
  · exact fun h => nomatch h
  · exact stepOK_addChar lim s c (by decide)

theorem stepOK_stepChar (lim : Nat) (s : RSt) (c : Char) : StepOK s c (stepChar lim s c) := by
  unfold stepChar
  split
  · split
    · exact fun _ => by assumption
    · exact stepOK_startField lim s c
  · exact stepOK_startField lim s c
  · repeat' split
    · exact fun _ => by assumption
    · exact fun h => nomatch h
    · exact stepOK_addChar lim s c (by decide)
  · split
    · exact fun h => nomatch h
    · exact stepOK_addChar lim s c (by decide)
  · repeat' split
    · exact stepOK_addChar lim s c (by decide)
    · exact fun h => nomatch h
    · exact fun _ => by assumption
    · exact stepOK_addChar lim s c (by decide)
  · split
    · exact fun _ => by assumption
    · exact Or.inr ⟨by assumption, (Bool.not_eq_true _).mp (by assumption)⟩

theorem stepEol_mode_ne_eatCrnl (s : RSt) : (stepEol s).mode ≠ .eatCrnl := by
  unfold stepEol
  split
  case h_4 hm => exact fun h => nomatch hm.symm.trans h
  all_goals exact fun h => nomatch h

theorem run_error_fieldLimit {lim : Nat} :
    ∀ (text : List Char) (s s' : RSt) (e : CsvErr), CrnlInv s text → run lim s text = (s', some e) → e = .fieldLimit := by
  intro text
  induction text with
  | nil => intro s s' e _ h; exact nomatch h
  | cons c rest ih =>
    intro s s' e hinv h
    have hok := stepOK_stepChar lim s c
    rw [run] at h
    cases hstep : stepChar lim s c with
    | error e' =>
      rw [hstep] at h hok
      obtain rfl : e' = e := Option.some.inj (Prod.mk.inj h).2
      -- EAT_CRNL followed by something else than `\n` is excluded by the invariant
      refine hok.resolve_right (fun hc => ?_)
      obtain rfl : c = '\n' := Option.some.inj (hinv hc.1)
      exact nomatch hc.2
    | ok s1 =>
      rw [hstep] at h hok
      refine ih _ _ _ (fun hm => ?_) h
      unfold afterChar at hm
      split at hm
      · exact absurd hm (stepEol_mode_ne_eatCrnl s1)
      · -- `c` is a line break after which no line ends: a `\r` in front of a `\n`
        rename_i he
        have hnl := hok hm
        simp only [eolAfter, Bool.or_eq_true, Bool.and_eq_true, beq_iff_eq, bne_iff_ne, ne_eq, List.isEmpty_iff, not_or,
          not_and, Decidable.not_not] at he
        simp only [isNl, Bool.or_eq_true, beq_iff_eq] at hnl
        exact hnl.elim (fun h => absurd h he.1.1) he.1.2

end Pabu.Csv
