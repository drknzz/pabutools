/-
  C20 — rules and analyses leave their inputs untouched.
  Effect model: PabuModel.Effects; write summary regenerated from the sources: Gen.Effects.
-/
import Gen.Effects
namespace Pabu.Effects
open Pabu.Gen

/-- no public entry point contains a statement that may write to a caller's argument, except the documented
    `final_budget` override -/
theorem no_caller_visible_write : ∀ e ∈ effectSummary, e.clean = true := by decide +kernel

theorem bump_of_ne (env : Env) {p q : String} (h : q ≠ p) : bump env p q = env q := if_neg h

theorem applyWrites_frame (ws : List WriteSite) (env : Env) (p : String) (h : ∀ w ∈ ws, w.param ≠ p) :
    applyWrites ws env p = env p := by
  unfold applyWrites
  induction ws generalizing env with
  | nil => rfl
  | cons w ws ih =>
    rw [List.foldl_cons, ih _ fun w' h' => h w' (List.mem_cons_of_mem _ h')]
    exact bump_of_ne env (h w (by simp)).symm

theorem frame (e : EntryEffects) (env : Env) (p : String) (h : ∀ w ∈ e.writes, w.param ≠ p) :
    call e env p = env p := applyWrites_frame e.writes env p h

theorem frame_clean (e : EntryEffects) (he : e.clean = true) (env : Env) (p : String)
    (hp : ∀ k, (e.name, p, k) ∉ allowed) : call e env p = env p := by
  apply frame
  intro w hw hwp
  -- `clean` says every write site is allow-listed; one naming `p` would put `p` on the allow list
  rw [EntryEffects.clean, EntryEffects.visible, List.isEmpty_iff, List.filter_eq_nil_iff] at he
  have hin := he w hw
  rw [Bool.not_eq_true, Bool.not_eq_false', List.contains_iff_mem, hwp] at hin
  exact hp w.kind hin

theorem frame_seq (es : List EntryEffects) (h : ∀ e ∈ es, e.clean = true) (env : Env) (p : String)
    (hp : ∀ e ∈ es, ∀ k, (e.name, p, k) ∉ allowed) : callSeq es env p = env p := by
  unfold callSeq
  induction es generalizing env with
  | nil => rfl
  | cons e es ih =>
    rw [List.foldl_cons, ih (fun e' h' => h e' (List.mem_cons_of_mem _ h')) _
      fun e' h' => hp e' (List.mem_cons_of_mem _ h')]
    exact frame_clean e (h e (by simp)) env p (hp e (by simp))

/-- for the library: any sequence of public entry points leaves every argument at its version, the budget of the
    instance passed to `calculate_effective_supports` excepted -/
theorem entry_points_frame (es : List EntryEffects) (hes : ∀ e ∈ es, e ∈ effectSummary) (env : Env) (p : String)
    (hp : ∀ e ∈ es, ∀ k, (e.name, p, k) ∉ allowed) : callSeq es env p = env p :=
  frame_seq es (fun e he => no_caller_visible_write e (hes e he)) env p hp

example : ∃ e ∈ effectSummary, e.name = "exhaustion_by_budget_increase" ∧ "rule_params" ∈ e.params := by decide +kernel
example : effectSummary.length ≥ 40 := by decide +kernel

/-- the unrepaired budget-increase wrapper: its summary is not clean and the caller's `rule_params` changes -/
def unrepairedExhaustion : EntryEffects :=
  { name := "exhaustion_by_budget_increase", module := "pabutools.rules.exhaustion",
    params := ["instance", "profile", "rule", "rule_params"],
    writes := [{ param := "rule_params", kind := "subscript-store", line := 157, via := "" }] }

example : unrepairedExhaustion.clean = false ∧ call unrepairedExhaustion (fun _ => 0) "rule_params" = 1 ∧
    call unrepairedExhaustion (fun _ => 0) "instance" = 0 := by decide +kernel

end Pabu.Effects
