/-
  C08 — irresolute outcomes are exactly the outcomes of all strict tie-breaking orders
  (model side).  The inductions are in PabuProofs/Lemmas/{RoundRule,Tie}.lean.

  Vocabulary.  For a round rule `R` (Equal Shares, greedy, Phragmén), fuel `n`, initial state `s₀`:
  * `R.runPi π n s₀`    the resolute outcome when every tie is broken by the strict order `π`;
  * `R.runAllP n s₀`    the outcomes of all branches of the irresolute run;
  * `R.run order n s₀`, `R.runAll order n s₀`   the `Except`-valued runs the driver executes with
    the tie-breaking function `order` (`Tie.order t cost score`);
  * `canonOutcomes`     name-sort each outcome and drop repeats (the end of the irresolute code).

  "sound" = the outcome of every strict order is among the irresolute outcomes;
  "complete" = every irresolute outcome is the outcome of some strict order over all projects.
-/
import PabuProofs.Lemmas.Tie
namespace Pabu.C08
open Pabu Pabu.TieL

/-! ### Generic statements (any well-formed round rule) -/

section Generic
variable {σ : Type}

/-- (sound) for every order `π` containing the pool, the resolute outcome under `π` is one of
    the irresolute outcomes -/
theorem irresolute_sound (R : RoundRule σ) (hR : R.WF) (π : List Pid) (n : Nat) (s₀ : σ)
    (hπ : ∀ x ∈ R.pool s₀, x ∈ π) : R.runPi π n s₀ ∈ R.runAllP n s₀ :=
  R.runPi_mem_runAllP π (fun s => ∀ x ∈ R.pool s, x ∈ π) (fun s h x hx => h x (hR.tied_sub s x hx))
    (fun _ _ h ht => hR.pool_sub ht h) n s₀ hπ

/-- (complete, suffix form) every irresolute outcome is the resolute outcome under a
    duplicate-free order over pool projects followed by anything -/
theorem irresolute_complete_suffix (R : RoundRule σ) (hR : R.WF) (n : Nat) (s₀ : σ) :
    ∀ W ∈ R.runAllP n s₀, ∃ l : List Pid, l.Nodup ∧ (∀ x ∈ l, x ∈ R.pool s₀) ∧
      ∀ rest, R.runPi (l ++ rest) n s₀ = W := by
  intro W hW
  obtain ⟨l, hnd, hsub, hrun⟩ := runAll_realised R hR n s₀ W hW
  exact ⟨l, hnd, hsub, fun rest => hrun [] rest fun _ h => (List.not_mem_nil h).elim⟩

/-- (complete) every irresolute outcome is the resolute outcome under a strict order: for every
    duplicate-free list `P` of projects containing the pool there is an arrangement `π` of `P`
    whose resolute outcome it is -/
theorem irresolute_complete (R : RoundRule σ) (hR : R.WF) (n : Nat) (s₀ : σ) (P : List Pid)
    (hP : P.Nodup) (hpool : ∀ x ∈ R.pool s₀, x ∈ P) :
    ∀ W ∈ R.runAllP n s₀, ∃ π : List Pid, π.Perm P ∧ R.runPi π n s₀ = W := by
  intro W hW
  obtain ⟨l, hnd, hsub, hrun⟩ := irresolute_complete_suffix R hR n s₀ W hW
  -- `l` is duplicate-free and within `P`: fill it up with the rest of `P`
  obtain ⟨l', hl', hs⟩ := List.subperm_of_subset hnd fun x hx => hpool x (hsub x hx)
  obtain ⟨r, hr⟩ := hs.exists_perm_append
  exact ⟨l ++ r, (hr.trans (hl'.append_right r)).symm, hrun r⟩

/-- (no duplicates) the canonicalisation returns a duplicate-free list whose members are exactly
    the name-sorted members of its input -/
theorem irresolute_nodup (Ls : List (List Pid)) :
    (canonOutcomes Ls).Nodup ∧ ∀ W, W ∈ canonOutcomes Ls ↔ ∃ W0 ∈ Ls, W = sortIds W0 :=
  ⟨canonOutcomes_nodup Ls, fun _ => mem_canonOutcomes_iff⟩

/-- what the driver executes, resolute, permutation rule: the run is `runPi π` -/
theorem run_perm_rule (R : RoundRule σ) (hR : R.WF) (π : List Pid) (cost : Pid → Rat)
    (score : Pid → Nat) (n : Nat) (s₀ : σ) (hπ : ∀ x ∈ R.pool s₀, x ∈ π) :
    R.run (Tie.order (.perm π) cost score) n s₀ = .ok (R.runPi π n s₀) :=
  R.run_eq_runPi hR π _ (fun _ hT => Tie.order_perm_head π cost score hT) n s₀ hπ

/-- what the driver executes, resolute, any rule (even `refuse`, when it does not raise): the
    outcome is one of the pure irresolute outcomes -/
theorem run_any_rule_mem (R : RoundRule σ) (t : Tie) (cost : Pid → Rat) (score : Pid → Nat)
    (n : Nat) (s₀ : σ) (W : List Pid) (h : R.run (Tie.order t cost score) n s₀ = .ok W) :
    W ∈ R.runAllP n s₀ :=
  R.run_mem_runAllP _ (Tie.order_mem t cost score) (Tie.order_ne_nil t cost score) n s₀ W h

/-- what the driver executes, irresolute, any rule but `refuse`: it does not fail and returns,
    without repeats, exactly the name-sorted pure irresolute outcomes -/
theorem runAll_any_rule (R : RoundRule σ) {t : Tie} (ht : t ≠ .refuse) (cost : Pid → Rat)
    (score : Pid → Nat) (n : Nat) (s₀ : σ) :
    ∃ L, (R.runAll (Tie.order t cost score) n s₀).map canonOutcomes = .ok L ∧ L.Nodup ∧
      ∀ W, W ∈ L ↔ ∃ W0 ∈ R.runAllP n s₀, W = sortIds W0 := by
  rw [Tie.order_ok_fun ht]
  exact R.runAll_canon _ (Tie.ord_perm t cost score) n s₀

theorem runAll_any_rule_raw (R : RoundRule σ) {t : Tie} (ht : t ≠ .refuse) (cost : Pid → Rat)
    (score : Pid → Nat) (n : Nat) (s₀ : σ) :
    ∃ L, R.runAll (Tie.order t cost score) n s₀ = .ok L ∧ ∀ W, W ∈ L ↔ W ∈ R.runAllP n s₀ := by
  rw [Tie.order_ok_fun ht]
  exact R.runAll_mem_iff _ (Tie.ord_perm t cost score) n s₀

/-! #### The three clauses for a pair of driver runs

  `L` is what the irresolute run returns under an order function `order` that arranges the tied
  projects; `order'` is the order function of the resolute run.  The statements about greedy,
  Phragmén and Equal Shares below are these, at their rule, initial state and fuel. -/

variable {R : RoundRule σ} {n : Nat} {s₀ : σ} {order : List Pid → Except Err (List Pid)}
  {L : List (List Pid)} (hR : R.WF) (hord : ∀ T l, order T = .ok l → l.Perm T)
  (hL : (R.runAll order n s₀).map canonOutcomes = .ok L)
include hord hL

theorem mem_of_run {order' : List Pid → Except Err (List Pid)}
    (hmem : ∀ T l, order' T = .ok l → ∀ x ∈ l, x ∈ T) (hne : ∀ T, T ≠ [] → order' T ≠ .ok [])
    {W : List Pid} (hW : R.run order' n s₀ = .ok W) : sortIds W ∈ L :=
  (R.runAll_canon_iff order hord hL _).mpr ⟨W, R.run_mem_runAllP order' hmem hne n s₀ W hW, rfl⟩

include hR

theorem sound_of_head {order' : List Pid → Except Err (List Pid)} {π : List Pid}
    (hhead : ∀ T, (∀ x ∈ T, x ∈ π) → ∃ r, order' T = .ok r ∧ r.head? = pick π T)
    (hπ : ∀ x ∈ R.pool s₀, x ∈ π) : ∃ W, R.run order' n s₀ = .ok W ∧ sortIds W ∈ L :=
  ⟨_, R.run_eq_runPi hR π order' hhead n s₀ hπ,
    (R.runAll_canon_iff order hord hL _).mpr ⟨_, irresolute_sound R hR π n s₀ hπ, rfl⟩⟩

theorem complete_of_head {P : List Pid} (hP : P.Nodup) (hpool : ∀ x ∈ R.pool s₀, x ∈ P)
    {order' : List Pid → List Pid → Except Err (List Pid)}
    (hhead : ∀ π T, (∀ x ∈ T, x ∈ π) → ∃ r, order' π T = .ok r ∧ r.head? = pick π T) :
    ∀ W' ∈ L, ∃ π : List Pid, π.Perm P ∧ ∃ W, R.run (order' π) n s₀ = .ok W ∧ W' = sortIds W := by
  intro W' hW'
  obtain ⟨W0, hW0, rfl⟩ := (R.runAll_canon_iff order hord hL W').mp hW'
  obtain ⟨π, hπ, rfl⟩ := irresolute_complete R hR n s₀ P hP hpool W0 hW0
  exact ⟨π, hπ, _, R.run_eq_runPi hR π _ (hhead π) n s₀ fun x hx => hπ.mem_iff.mpr (hpool x hx), rfl⟩

end Generic

theorem rules_wf (V : VCtx) (cost : Pid → Rat) (tsat : List Pid → Rat) (I : Inst)
    (C : Phragmen.Ctx) :
    (MES.rule V cost).WF ∧ (Greedy.rule tsat I).WF ∧ (Phragmen.rule C).WF :=
  ⟨mes_rule_wf V cost, Greedy.rule_WF tsat I, Phragmen.rule_WF C⟩

/-! ### Greedy (general path) -/

section Greedy
open Greedy
variable (tsat : List Pid → Rat) (I : Inst) (init : List Pid)

theorem greedy_pool_sub : ∀ x ∈ (rule tsat I).pool (initState I init), x ∈ I.projects := by
  intro x hx
  have hx' : x ∈ (sortIds I.projects).filter _ := hx
  exact mem_sortIds.mp (List.mem_filter.mp hx').1

theorem greedy_general_perm (π : List Pid) (hπ : ∀ x ∈ I.projects, x ∈ π) (cost : Pid → Rat)
    (score : Pid → Nat) :
    general tsat I init (Tie.order (.perm π) cost score) =
      .ok ((rule tsat I).runPi π (initState I init).feasible.length (initState I init)) :=
  run_perm_rule _ (Greedy.rule_WF tsat I) π cost score _ _
    (fun x hx => hπ x (greedy_pool_sub tsat I init x hx))

/-- the irresolute driver run with any rule but `refuse` succeeds, returns no allocation twice,
    and returns exactly the name-sorted outcomes of the branches -/
theorem greedy_irresolute_nodup {t : Tie} (ht : t ≠ .refuse) (cost : Pid → Rat)
    (score : Pid → Nat) :
    ∃ L, generalAll tsat I init (Tie.order t cost score) = .ok L ∧ L.Nodup ∧
      ∀ W, W ∈ L ↔ ∃ W0 ∈ (rule tsat I).runAllP (initState I init).feasible.length
        (initState I init), W = sortIds W0 :=
  runAll_any_rule (rule tsat I) ht cost score _ _

/-- (sound) the resolute outcome under every strict order over the projects is returned by the
    irresolute run -/
theorem greedy_irresolute_sound {t : Tie} (ht : t ≠ .refuse) (cost cost' : Pid → Rat)
    (score score' : Pid → Nat) {L : List (List Pid)}
    (hL : generalAll tsat I init (Tie.order t cost score) = .ok L)
    (π : List Pid) (hπ : ∀ x ∈ I.projects, x ∈ π) :
    ∃ W, general tsat I init (Tie.order (.perm π) cost' score') = .ok W ∧ sortIds W ∈ L :=
  sound_of_head (Greedy.rule_WF tsat I) (Tie.order_perm t cost score) hL
    (fun _ => Tie.order_perm_head π cost' score') fun x hx => hπ x (greedy_pool_sub tsat I init x hx)

/-- (in particular) the resolute outcome under any shipped rule is returned by the irresolute run -/
theorem greedy_resolute_mem {t : Tie} (ht : t ≠ .refuse) (cost cost' : Pid → Rat)
    (score score' : Pid → Nat) {L : List (List Pid)}
    (hL : generalAll tsat I init (Tie.order t cost score) = .ok L)
    (t' : Tie) {W : List Pid} (hW : general tsat I init (Tie.order t' cost' score') = .ok W) :
    sortIds W ∈ L :=
  mem_of_run (Tie.order_perm t cost score) hL (Tie.order_mem t' cost' score')
    (Tie.order_ne_nil t' cost' score') hW

/-- (complete) every allocation returned by the irresolute run is the (name-sorted) resolute
    outcome under some strict order over all projects -/
theorem greedy_irresolute_complete {t : Tie} (ht : t ≠ .refuse) (cost cost' : Pid → Rat)
    (score score' : Pid → Nat) {L : List (List Pid)}
    (hL : generalAll tsat I init (Tie.order t cost score) = .ok L) (hP : I.projects.Nodup) :
    ∀ W' ∈ L, ∃ π : List Pid, π.Perm I.projects ∧
      ∃ W, general tsat I init (Tie.order (.perm π) cost' score') = .ok W ∧ W' = sortIds W :=
  complete_of_head (Greedy.rule_WF tsat I) (Tie.order_perm t cost score) hL hP
    (greedy_pool_sub tsat I init) fun π _ => Tie.order_perm_head π cost' score'

end Greedy

/-! ### Sequential Phragmén -/

section Phragmen
open Phragmen
variable (C : Ctx) (projects init : List Pid) (loads : Nat → Rat)

theorem phragmen_pool_sub :
    ∀ x ∈ (rule C).pool (initState C projects init loads), x ∈ projects := by
  intro x hx
  have hx' : x ∈ (sortIds projects).filter _ := hx
  exact mem_sortIds.mp (List.mem_filter.mp hx').1

theorem phragmen_run_perm (π : List Pid) (hπ : ∀ x ∈ projects, x ∈ π) (cost : Pid → Rat)
    (score : Pid → Nat) :
    Phragmen.run C projects init loads (Tie.order (.perm π) cost score) =
      .ok ((rule C).runPi π (initState C projects init loads).pool.length
        (initState C projects init loads)) :=
  run_perm_rule _ (Phragmen.rule_WF C) π cost score _ _
    (fun x hx => hπ x (phragmen_pool_sub C projects init loads x hx))

theorem phragmen_irresolute_nodup {t : Tie} (ht : t ≠ .refuse) (cost : Pid → Rat)
    (score : Pid → Nat) :
    ∃ L, Phragmen.runAll C projects init loads (Tie.order t cost score) = .ok L ∧ L.Nodup ∧
      ∀ W, W ∈ L ↔ ∃ W0 ∈ (rule C).runAllP (initState C projects init loads).pool.length
        (initState C projects init loads), W = sortIds W0 :=
  runAll_any_rule (rule C) ht cost score _ _

theorem phragmen_irresolute_sound {t : Tie} (ht : t ≠ .refuse) (cost cost' : Pid → Rat)
    (score score' : Pid → Nat) {L : List (List Pid)}
    (hL : Phragmen.runAll C projects init loads (Tie.order t cost score) = .ok L)
    (π : List Pid) (hπ : ∀ x ∈ projects, x ∈ π) :
    ∃ W, Phragmen.run C projects init loads (Tie.order (.perm π) cost' score') = .ok W ∧
      sortIds W ∈ L :=
  sound_of_head (Phragmen.rule_WF C) (Tie.order_perm t cost score) hL
    (fun _ => Tie.order_perm_head π cost' score')
    fun x hx => hπ x (phragmen_pool_sub C projects init loads x hx)

theorem phragmen_resolute_mem {t : Tie} (ht : t ≠ .refuse) (cost cost' : Pid → Rat)
    (score score' : Pid → Nat) {L : List (List Pid)}
    (hL : Phragmen.runAll C projects init loads (Tie.order t cost score) = .ok L)
    (t' : Tie) {W : List Pid}
    (hW : Phragmen.run C projects init loads (Tie.order t' cost' score') = .ok W) :
    sortIds W ∈ L :=
  mem_of_run (Tie.order_perm t cost score) hL (Tie.order_mem t' cost' score')
    (Tie.order_ne_nil t' cost' score') hW

theorem phragmen_irresolute_complete {t : Tie} (ht : t ≠ .refuse) (cost cost' : Pid → Rat)
    (score score' : Pid → Nat) {L : List (List Pid)}
    (hL : Phragmen.runAll C projects init loads (Tie.order t cost score) = .ok L)
    (hP : projects.Nodup) :
    ∀ W' ∈ L, ∃ π : List Pid, π.Perm projects ∧
      ∃ W, Phragmen.run C projects init loads (Tie.order (.perm π) cost' score') = .ok W ∧
        W' = sortIds W :=
  complete_of_head (Phragmen.rule_WF C) (Tie.order_perm t cost score) hL hP
    (phragmen_pool_sub C projects init loads) fun π _ => Tie.order_perm_head π cost' score'

end Phragmen

/-! ### Equal Shares (the rule is only consulted on a real tie: `orderIfTie`) -/

section MES
open MES
variable (V : VCtx) (I : Inst) (init : List Pid) (b0 : Rat)

theorem mes_pool_sub : ∀ x ∈ (rule V I.cost).pool (initState V I init b0), x ∈ I.projects := by
  intro x hx
  have hx' : x ∈ initPool V I init := hx
  exact (mem_initPool.mp hx').1

theorem mes_runAt_perm (π : List Pid) (hπ : ∀ x ∈ I.projects, x ∈ π) (cost : Pid → Rat)
    (score : Pid → Nat) :
    runAt V I init (Tie.order (.perm π) cost score) b0 =
      .ok ((rule V I.cost).runPi π (initPool V I init).length (initState V I init b0)) :=
  (rule V I.cost).run_eq_runPi (mes_rule_wf V I.cost) π _
    (orderIfTie_head π _ (fun _ hT => Tie.order_perm_head π cost score hT)) _ _
    (fun x hx => hπ x (mes_pool_sub V I init b0 x hx))

theorem mes_irresolute_nodup {t : Tie} (ht : t ≠ .refuse) (cost : Pid → Rat) (score : Pid → Nat) :
    ∃ L, runAllAt V I init (Tie.order t cost score) b0 = .ok L ∧ L.Nodup ∧
      ∀ W, W ∈ L ↔ ∃ W0 ∈ (rule V I.cost).runAllP (initPool V I init).length
        (initState V I init b0), W = sortIds W0 := by
  unfold runAllAt
  rw [Tie.order_ok_fun ht, orderIfTie_ok]
  exact (rule V I.cost).runAll_canon _ (ordIfTie_perm (Tie.ord_perm t cost score)) _ _

theorem mes_irresolute_sound {t : Tie} (ht : t ≠ .refuse) (cost cost' : Pid → Rat)
    (score score' : Pid → Nat) {L : List (List Pid)}
    (hL : runAllAt V I init (Tie.order t cost score) b0 = .ok L)
    (π : List Pid) (hπ : ∀ x ∈ I.projects, x ∈ π) :
    ∃ W, runAt V I init (Tie.order (.perm π) cost' score') b0 = .ok W ∧ sortIds W ∈ L :=
  sound_of_head (mes_rule_wf V I.cost) (orderIfTie_perm (Tie.order_perm t cost score)) hL
    (orderIfTie_head π _ fun _ => Tie.order_perm_head π cost' score')
    fun x hx => hπ x (mes_pool_sub V I init b0 x hx)

theorem mes_resolute_mem {t : Tie} (ht : t ≠ .refuse) (cost cost' : Pid → Rat)
    (score score' : Pid → Nat) {L : List (List Pid)}
    (hL : runAllAt V I init (Tie.order t cost score) b0 = .ok L)
    (t' : Tie) {W : List Pid} (hW : runAt V I init (Tie.order t' cost' score') b0 = .ok W) :
    sortIds W ∈ L :=
  mem_of_run (orderIfTie_perm (Tie.order_perm t cost score)) hL
    (orderIfTie_mem (Tie.order_mem t' cost' score'))
    (orderIfTie_ne_nil (Tie.order_ne_nil t' cost' score')) hW

theorem mes_irresolute_complete {t : Tie} (ht : t ≠ .refuse) (cost cost' : Pid → Rat)
    (score score' : Pid → Nat) {L : List (List Pid)}
    (hL : runAllAt V I init (Tie.order t cost score) b0 = .ok L) (hP : I.projects.Nodup) :
    ∀ W' ∈ L, ∃ π : List Pid, π.Perm I.projects ∧
      ∃ W, runAt V I init (Tie.order (.perm π) cost' score') b0 = .ok W ∧ W' = sortIds W :=
  complete_of_head (mes_rule_wf V I.cost) (orderIfTie_perm (Tie.order_perm t cost score)) hL hP
    (mes_pool_sub V I init b0)
    fun π => orderIfTie_head π _ fun _ => Tie.order_perm_head π cost' score'

/-- `method_of_equal_shares` (plain) is `runAt`/`runAllAt` at the per-voter share budget/n, so
    the statements above are statements about `MES.run` and `MES.runAll` -/
theorem mes_run_is_runAt (order : List Pid → Except Err (List Pid)) :
    MES.run V I init order = runAt V I init order (I.budget / (numVoters V : Nat)) ∧
    MES.runAll V I init order = runAllAt V I init order (I.budget / (numVoters V : Nat)) :=
  ⟨rfl, rfl⟩

end MES

/-! ### The hypotheses are satisfiable and the statements are not vacuous -/

def gI : Inst := ⟨[2, 0, 1], fun _ => 1, 2⟩
def gsat : List Pid → Rat := fun l => (l.length : Nat)

/-- greedy, three unit-cost projects with the same marginal satisfaction, budget 2:
    three irresolute outcomes; the order 2 < 1 < 0 realises {1, 2} -/
example : Greedy.generalAll gsat gI [] (Tie.order .lexico gI.cost (fun _ => 0)) =
      .ok [[0, 1], [0, 2], [1, 2]] ∧
    Greedy.general gsat gI [] (Tie.order (.perm [2, 1, 0]) gI.cost (fun _ => 0)) = .ok [2, 1] ∧
    gI.projects.Nodup ∧ (∀ x ∈ gI.projects, x ∈ [2, 1, 0]) ∧ Tie.lexico ≠ Tie.refuse := by
  refine ⟨by decide +kernel, by decide +kernel, by decide, by decide, by decide⟩

def pC : Phragmen.Ctx := ⟨[0, 1], fun _ => 1, fun _ _ => true, fun _ => 1, 1⟩

/-- Phragmén, two voters approving both unit-cost projects, budget 1: two irresolute outcomes -/
example : Phragmen.runAll pC [1, 0] [] (fun _ => 0) (Tie.order .minCost pC.cost (fun _ => 0)) =
      .ok [[0], [1]] ∧
    Phragmen.run pC [1, 0] [] (fun _ => 0) (Tie.order (.perm [1, 0]) pC.cost (fun _ => 0)) =
      .ok [1] := by
  refine ⟨by decide +kernel, by decide +kernel⟩

def mV : VCtx := ⟨[0, 1], fun _ => 1, fun _ _ => 1⟩
def mI : Inst := ⟨[1, 0], fun _ => 1, 1⟩

/-- Equal Shares, two voters with utility 1 for both unit-cost projects, budget 1: two irresolute
    outcomes -/
example : MES.runAll mV mI [] (Tie.order .maxCost mI.cost (fun _ => 0)) = .ok [[0], [1]] ∧
    MES.run mV mI [] (Tie.order (.perm [1, 0]) mI.cost (fun _ => 0)) = .ok [1] := by
  refine ⟨by decide +kernel, by decide +kernel⟩

end Pabu.C08
