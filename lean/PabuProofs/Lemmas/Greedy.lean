/-
  Lemmas about the greedy-welfare model (PabuModel.Greedy), and the vocabulary of outcomes it shares
  with sequential Phragmén (`WFInput`, `ValidOutcome`, `Exhaustive`).
  Then the general path (state invariant, the tied projects are the best next ones, the run builds
  what the definition builds), the single pass of the additive fast path, and the equality of the two
  paths for an additive satisfaction.
-/
import PabuModel.Greedy
import PabuProofs.Lemmas.Election
import PabuProofs.Lemmas.RoundRule
namespace Pabu

/-! ### The vocabulary of outcomes shared by the greedy and Phragmén proofs -/
namespace GreedyAux

theorem perm_mem_ne {T l : List Pid} (h : l.Perm T) : (∀ x ∈ l, x ∈ T) ∧ (T ≠ [] → l ≠ []) :=
  ⟨fun _ hx => h.mem_iff.mp hx, fun hT hl => hT (hl ▸ h).symm.eq_nil⟩

theorem isExhaustive_iff (I : Inst) (W : List Pid) :
    I.isExhaustive W = true ↔ ∀ p ∈ I.projects, p ∉ W → I.budget < costOf I.cost W + I.cost p := by
  unfold Inst.isExhaustive Inst.isExhaustiveOver Inst.totalCost
  rw [List.all_eq_true]
  refine forall₂_congr fun p _ => ?_
  rw [Bool.or_eq_true, List.contains_iff_mem, Bool.not_eq_true', decide_eq_false_iff_not, not_le,
    add_comm, or_iff_not_imp_left]

theorem isFeasible_iff (I : Inst) (W : List Pid) : I.isFeasible W = true ↔ costOf I.cost W ≤ I.budget :=
  I.isFeasible_iff W

structure WFInput (I : Inst) (init : List Pid) : Prop where
  projects_nodup : I.projects.Nodup
  cost_nonneg : ∀ p ∈ I.projects, 0 ≤ I.cost p
  init_nodup : init.Nodup
  init_sub : ∀ p ∈ init, p ∈ I.projects
  init_cost : costOf I.cost init ≤ I.budget

/-- the feasibility facts of property C01 about one outcome -/
structure ValidOutcome (I : Inst) (init W : List Pid) : Prop where
  nodup : W.Nodup
  sub : ∀ p ∈ W, p ∈ I.projects
  init_sub : ∀ p ∈ init, p ∈ W
  feasible : costOf I.cost W ≤ I.budget

def Exhaustive (I : Inst) (W : List Pid) : Prop :=
  ∀ p ∈ I.projects, p ∉ W → I.budget < costOf I.cost W + I.cost p

theorem Exhaustive.isExhaustive {I : Inst} {W : List Pid} (h : Exhaustive I W) : I.isExhaustive W = true :=
  (isExhaustive_iff I W).mpr h

theorem ValidOutcome.isFeasible {I : Inst} {init W : List Pid} (h : ValidOutcome I init W) :
    I.isFeasible W = true := (isFeasible_iff I W).mpr h.feasible

theorem ValidOutcome.perm {I : Inst} {init W W' : List Pid} (h : ValidOutcome I init W) (hp : W'.Perm W) :
    ValidOutcome I init W' where
  nodup := hp.nodup_iff.mpr h.nodup
  sub := fun p hpW => h.sub p (hp.mem_iff.mp hpW)
  init_sub := fun p hpi => hp.mem_iff.mpr (h.init_sub p hpi)
  feasible := costOf_perm I.cost hp ▸ h.feasible

theorem Exhaustive.perm {I : Inst} {W W' : List Pid} (h : Exhaustive I W) (hp : W'.Perm W) : Exhaustive I W' :=
  fun p hpP hpW => costOf_perm I.cost hp ▸ h p hpP fun hm => hpW (hp.mem_iff.mpr hm)

theorem ValidOutcome.snoc {I : Inst} {init W : List Pid} (h : ValidOutcome I init W) {t : Pid}
    (htP : t ∈ I.projects) (htW : t ∉ W) (hfit : costOf I.cost W + I.cost t ≤ I.budget) :
    ValidOutcome I init (W ++ [t]) where
  nodup := List.nodup_append.mpr
    ⟨h.nodup, List.nodup_singleton t, fun _ ha _ hb e => htW (List.mem_singleton.mp hb ▸ e ▸ ha)⟩
  sub := fun p hp => (List.mem_append.mp hp).elim (h.sub p) fun hp => List.mem_singleton.mp hp ▸ htP
  init_sub := fun p hp => List.mem_append_left _ (h.init_sub p hp)
  feasible := costOf_snoc I.cost W t ▸ hfit

end GreedyAux

namespace Greedy
open GreedyAux

/-! ### The general path is a well-formed round rule -/

theorem mem_initState_feasible {I : Inst} {init : List Pid} {p : Pid} :
    p ∈ (initState I init).feasible ↔
      p ∈ I.projects ∧ p ∉ init ∧ costOf I.cost init + I.cost p ≤ I.budget := by
  simp only [initState, List.mem_filter, mem_sortIds, Bool.and_eq_true, Bool.not_eq_true',
    List.contains_eq_mem, decide_eq_false_iff_not, decide_eq_true_eq]

theorem mem_buy_feasible {I : Inst} {s : State} {t p : Pid} :
    p ∈ (buy I s t).feasible ↔
      p ∈ s.feasible ∧ p ≠ t ∧ costOf I.cost (s.alloc ++ [t]) + I.cost p ≤ I.budget := by
  simp only [buy, List.mem_filter, Bool.and_eq_true, bne_iff_ne, ne_eq, decide_eq_true_eq]

theorem buy_alloc (I : Inst) (s : State) (t : Pid) : (buy I s t).alloc = s.alloc ++ [t] := rfl

theorem tied_sub_feasible (tsat : List Pid → Rat) (cost : Pid → Rat) (s : State) :
    ∀ x ∈ tied tsat cost s, x ∈ s.feasible :=
  fun _ hx => (List.mem_filter.mp hx).1

theorem rule_WF (tsat : List Pid → Rat) (I : Inst) : (rule tsat I).WF where
  tied_sub := tied_sub_feasible tsat I.cost
  pool_buy := fun _ _ _ _ hx => ⟨(mem_buy_feasible.mp hx).1, (mem_buy_feasible.mp hx).2.1⟩

theorem buy_pool_lt (tsat : List Pid → Rat) (I : Inst) (s : State) (t : Pid) (ht : t ∈ tied tsat I.cost s) :
    (buy I s t).feasible.length < s.feasible.length :=
  List.length_filter_lt_length_iff_exists.mpr ⟨t, tied_sub_feasible tsat I.cost s t ht, by simp⟩

/-! ### The state invariant -/

structure Inv (I : Inst) (init : List Pid) (s : State) : Prop where
  nodup : s.alloc.Nodup
  sub : ∀ p ∈ s.alloc, p ∈ I.projects
  init_sub : ∀ p ∈ init, p ∈ s.alloc
  cost_le : costOf I.cost s.alloc ≤ I.budget
  feas_sound : ∀ p ∈ s.feasible,
    p ∈ I.projects ∧ p ∉ s.alloc ∧ costOf I.cost s.alloc + I.cost p ≤ I.budget
  feas_complete : ∀ p ∈ I.projects, p ∉ s.alloc →
    costOf I.cost s.alloc + I.cost p ≤ I.budget → p ∈ s.feasible

theorem inv_valid {I : Inst} {init : List Pid} {s : State} (h : Inv I init s) : ValidOutcome I init s.alloc :=
  ⟨h.nodup, h.sub, h.init_sub, h.cost_le⟩

theorem inv_init (I : Inst) (init : List Pid) (hinit : init.Nodup) (hsub : ∀ p ∈ init, p ∈ I.projects)
    (hcost : costOf I.cost init ≤ I.budget) : Inv I init (initState I init) where
  nodup := hinit
  sub := hsub
  init_sub := fun _ h => h
  cost_le := hcost
  feas_sound := fun _ hp => mem_initState_feasible.mp hp
  feas_complete := fun _ hp hn hfit => mem_initState_feasible.mpr ⟨hp, hn, hfit⟩

theorem fits_before {a t p B : Rat} (h0 : 0 ≤ t) (h : a + t + p ≤ B) : a + p ≤ B :=
  le_trans (by rw [add_right_comm]; exact le_add_of_nonneg_right h0) h

theorem inv_buy (tsat : List Pid → Rat) (I : Inst) (init : List Pid) (hcost : ∀ p ∈ I.projects, 0 ≤ I.cost p)
    (s : State) (t : Pid) (hs : Inv I init s) (ht : t ∈ tied tsat I.cost s) : Inv I init (buy I s t) := by
  obtain ⟨htP, htA, htfit⟩ := hs.feas_sound t (tied_sub_feasible tsat I.cost s t ht)
  obtain ⟨h1, h2, h3, h4⟩ := (inv_valid hs).snoc htP htA htfit
  have hc : costOf I.cost (s.alloc ++ [t]) = costOf I.cost s.alloc + I.cost t := costOf_snoc _ _ _
  refine ⟨h1, h2, h3, h4, fun p hp => ?_, fun p hpP hpA hfit => ?_⟩
  · obtain ⟨hpf, hpt, hfit⟩ := mem_buy_feasible.mp hp
    obtain ⟨hpP, hpA, _⟩ := hs.feas_sound p hpf
    exact ⟨hpP, fun hm => (List.mem_append.mp hm).elim hpA fun h => hpt (List.mem_singleton.mp h), hfit⟩
  · rw [buy_alloc] at hpA
    have hpA' : p ∉ s.alloc := fun h => hpA (List.mem_append_left _ h)
    have hpt : p ≠ t := fun h => hpA (List.mem_append_right _ (List.mem_singleton.mpr h))
    have hfit' : costOf I.cost s.alloc + I.cost p ≤ I.budget :=
      fits_before (hcost t htP) (hc ▸ hfit)
    exact mem_buy_feasible.mpr ⟨hs.feas_complete p hpP hpA' hfit', hpt, hfit⟩

/-! ### The argmax -/

theorem emax_cons_cons (x y : ERat) (l : List ERat) :
    emax (x :: y :: l) = if ERat.le (emax (y :: l)) x then x else emax (y :: l) := rfl

theorem emax_picksLeast : PicksLeast (fun a b => ERat.le b a) emax :=
  ⟨keyGe_total id, keyGe_trans id, fun _ => rfl, emax_cons_cons⟩

theorem tied_eq_nil_iff (tsat : List Pid → Rat) (cost : Pid → Rat) (s : State) :
    tied tsat cost s = [] ↔ s.feasible = [] :=
  emax_picksLeast.filter_eq_nil_iff _ _

theorem mem_tied_iff (tsat : List Pid → Rat) (cost : Pid → Rat) (s : State) (t : Pid) :
    t ∈ tied tsat cost s ↔ t ∈ s.feasible ∧ ∀ q ∈ s.feasible,
      ERat.le (marginal tsat cost s.alloc q) (marginal tsat cost s.alloc t) = true :=
  emax_picksLeast.mem_filter_iff (fun _ _ h₁ h₂ => ERat_le_antisymm h₂ h₁) _ _ _

/-! ### The run builds what the round-by-round definition builds -/

/-- `t` is a best next project after the allocation `A`: it is an undecided project of the instance that
    still fits, and no undecided project that still fits has a larger marginal satisfaction per unit of cost -/
def IsBest (tsat : List Pid → Rat) (I : Inst) (A : List Pid) (t : Pid) : Prop :=
  (t ∈ I.projects ∧ t ∉ A ∧ costOf I.cost A + I.cost t ≤ I.budget) ∧
  ∀ q ∈ I.projects, q ∉ A → costOf I.cost A + I.cost q ≤ I.budget →
    ERat.le (marginal tsat I.cost A q) (marginal tsat I.cost A t) = true

theorem mem_tied_iff_isBest (tsat : List Pid → Rat) {I : Inst} {init : List Pid} {s : State}
    (hs : Inv I init s) (t : Pid) : t ∈ tied tsat I.cost s ↔ IsBest tsat I s.alloc t := by
  rw [mem_tied_iff]
  constructor
  · intro ⟨h1, h2⟩
    exact ⟨hs.feas_sound t h1, fun q hq hqA hfit => h2 q (hs.feas_complete q hq hqA hfit)⟩
  · intro ⟨⟨h1, h2, h3⟩, h4⟩
    exact ⟨hs.feas_complete t h1 h2 h3, fun q hq =>
      have ⟨a, b, c⟩ := hs.feas_sound q hq
      h4 q a b c⟩

theorem tied_eq_nil_iff_exhaustive (tsat : List Pid → Rat) {I : Inst} {init : List Pid} {s : State}
    (hs : Inv I init s) : tied tsat I.cost s = [] ↔ Exhaustive I s.alloc := by
  rw [tied_eq_nil_iff, List.eq_nil_iff_forall_not_mem]
  constructor
  · intro hf p hp hn
    exact lt_of_not_ge fun hfit => hf p (hs.feas_complete p hp hn hfit)
  · intro hex p hp
    obtain ⟨a, b, c⟩ := hs.feas_sound p hp
    exact absurd c (not_le.mpr (hex p a b))

/-- the definition of the greedy rule with tie-breaking `order`: starting from `A`, stop when nothing fits;
    otherwise add the first project of `order` applied to (an enumeration of) the best next projects -/
inductive SpecRun (tsat : List Pid → Rat) (I : Inst) (order : List Pid → Except Err (List Pid)) :
    List Pid → List Pid → Prop
  | stop (A : List Pid) : Exhaustive I A → SpecRun tsat I order A A
  | step (A T : List Pid) (t : Pid) (r W : List Pid) : (∀ x, x ∈ T ↔ IsBest tsat I A x) →
      order T = .ok (t :: r) → SpecRun tsat I order (A ++ [t]) W → SpecRun tsat I order A W

/-- the irresolute definition: any best next project may be added -/
inductive SpecRunAny (tsat : List Pid → Rat) (I : Inst) : List Pid → List Pid → Prop
  | stop (A : List Pid) : Exhaustive I A → SpecRunAny tsat I A A
  | step (A : List Pid) (t : Pid) (W : List Pid) : IsBest tsat I A t →
      SpecRunAny tsat I (A ++ [t]) W → SpecRunAny tsat I A W

section Runs
variable (tsat : List Pid → Rat) (I : Inst) (init : List Pid) (hcost : ∀ p ∈ I.projects, 0 ≤ I.cost p)
include hcost

theorem run_spec (order : List Pid → Except Err (List Pid))
    (hord : ∀ T l, order T = .ok l → (∀ x ∈ l, x ∈ T) ∧ (T ≠ [] → l ≠ []))
    (n : Nat) (s : State) (W : List Pid) (hs : Inv I init s) (hn : s.feasible.length ≤ n)
    (h : (rule tsat I).run order n s = .ok W) :
    (ValidOutcome I init W ∧ Exhaustive I W) ∧ SpecRun tsat I order s.alloc W :=
  RoundRule.run_rec (rule tsat I) (Inv := Inv I init)
    (P := fun s W => (ValidOutcome I init W ∧ Exhaustive I W) ∧ SpecRun tsat I order s.alloc W)
    (fun s t hs ht => ⟨inv_buy tsat I init hcost s t hs ht, buy_pool_lt tsat I s t ht⟩)
    (fun _ hs hT =>
      have hex := (tied_eq_nil_iff_exhaustive tsat hs).mp hT
      ⟨⟨inv_valid hs, hex⟩, .stop _ hex⟩)
    (rule_WF tsat I) order hord
    (fun s t r W hs ho h => ⟨h.1, .step s.alloc _ t r W (mem_tied_iff_isBest tsat hs) ho h.2⟩)
    n s W hs hn h

theorem runAllP_spec (n : Nat) (s : State) (hs : Inv I init s) (hn : s.feasible.length ≤ n) :
    ∀ W ∈ (rule tsat I).runAllP n s,
      (ValidOutcome I init W ∧ Exhaustive I W) ∧ SpecRunAny tsat I s.alloc W :=
  RoundRule.runAllP_rec (rule tsat I) (Inv := Inv I init)
    (P := fun s W => (ValidOutcome I init W ∧ Exhaustive I W) ∧ SpecRunAny tsat I s.alloc W)
    (fun s t hs ht => ⟨inv_buy tsat I init hcost s t hs ht, buy_pool_lt tsat I s t ht⟩)
    (fun _ hs hT =>
      have hex := (tied_eq_nil_iff_exhaustive tsat hs).mp hT
      ⟨⟨inv_valid hs, hex⟩, .stop _ hex⟩)
    (rule_WF tsat I)
    (fun s t W hs ht h => ⟨h.1, .step s.alloc t W ((mem_tied_iff_isBest tsat hs t).mp ht) h.2⟩)
    n s hs hn

theorem runAllP_complete {A W : List Pid} (h : SpecRunAny tsat I A W) :
    ∀ n s, Inv I init s → s.alloc = A → s.feasible.length ≤ n → W ∈ (rule tsat I).runAllP n s := by
  induction h with
  | stop A hex =>
    rintro n s hs rfl _
    exact (rule tsat I).out_mem_runAllP ((tied_eq_nil_iff_exhaustive tsat hs).mpr hex) n
  | step A t W hbest _ ih =>
    rintro n s hs rfl hn
    have ht : t ∈ tied tsat I.cost s := (mem_tied_iff_isBest tsat hs t).mpr hbest
    exact (rule tsat I).mem_runAllP_of_step ht (buy_pool_lt tsat I s t ht) hn
      fun n' hn' => ih n' (buy I s t) (inv_buy tsat I init hcost s t hs ht) rfl hn'

end Runs

/-! ### The single pass of the additive fast path -/

theorem pass_nil (cost : Pid → Rat) (rem : Rat) : pass cost rem [] = [] := rfl

theorem pass_cons (cost : Pid → Rat) (rem : Rat) (p : Pid) (ps : List Pid) :
    pass cost rem (p :: ps) = if cost p ≤ rem then p :: pass cost (rem - cost p) ps else pass cost rem ps := rfl

theorem pass_sublist (cost : Pid → Rat) (l : List Pid) : ∀ rem : Rat, (pass cost rem l).Sublist l := by
  induction l with
  | nil => exact fun _ => List.Sublist.refl _
  | cons p ps ih =>
    intro rem
    rw [pass_cons]
    split
    · exact (ih _).cons_cons p
    · exact (ih _).cons p

theorem pass_subset (cost : Pid → Rat) (l : List Pid) (rem : Rat) : ∀ p ∈ pass cost rem l, p ∈ l :=
  fun _ hp => (pass_sublist cost l rem).subset hp

theorem pass_nodup (cost : Pid → Rat) (l : List Pid) (rem : Rat) (h : l.Nodup) : (pass cost rem l).Nodup :=
  h.sublist (pass_sublist cost l rem)

theorem pass_cost_le (cost : Pid → Rat) (l : List Pid) (rem : Rat) (hrem : 0 ≤ rem) :
    costOf cost (pass cost rem l) ≤ rem := by
  fun_induction pass cost rem l with
  | case1 => exact hrem
  | case2 rem p ps h ih => exact le_sub_iff_add_le'.mp (ih (sub_nonneg.mpr h))
  | case3 rem p ps h ih => exact ih hrem

/-- a skipped project never fits later: the remaining budget only decreases -/
theorem pass_exhaustive (cost : Pid → Rat) (l : List Pid) (rem : Rat) (hc : ∀ p ∈ l, 0 ≤ cost p) :
    ∀ p ∈ l, p ∉ pass cost rem l → rem < costOf cost (pass cost rem l) + cost p := by
  fun_induction pass cost rem l with
  | case1 => exact fun _ hp => nomatch hp
  | case2 rem q ps h ih =>
    intro p hp hn
    have hps : p ∈ ps := (List.mem_cons.mp hp).resolve_left fun e => hn (e ▸ List.mem_cons_self)
    have := ih (fun p hp => hc p (List.mem_cons_of_mem _ hp)) p hps fun e => hn (List.mem_cons_of_mem _ e)
    rw [costOf_cons, add_assoc]
    exact sub_lt_iff_lt_add'.mp this
  | case3 rem q ps h ih =>
    intro p hp hn
    have hc' : ∀ p ∈ ps, 0 ≤ cost p := fun p hp => hc p (List.mem_cons_of_mem _ hp)
    rcases List.mem_cons.mp hp with rfl | e
    · exact lt_of_lt_of_le (lt_of_not_ge h)
        (le_add_of_nonneg_left (costOf_nonneg fun x hx => hc' x (pass_subset cost ps rem x hx)))
    · exact ih hc' p e hn

/-- zero-cost projects can be pulled out of the single pass: they are always taken and do not change
    the remaining budget -/
theorem pass_perm_split (cost : Pid → Rat) (l : List Pid) : ∀ rem : Rat, 0 ≤ rem → (∀ p ∈ l, 0 ≤ cost p) →
    (pass cost rem l).Perm
      (l.filter (fun p => !decide (0 < cost p)) ++ pass cost rem (l.filter (fun p => decide (0 < cost p)))) := by
  induction l with
  | nil => exact fun _ _ _ => List.Perm.refl _
  | cons q ps ih =>
    intro rem hrem hc
    have hc' : ∀ p ∈ ps, 0 ≤ cost p := fun p hp => hc p (List.mem_cons_of_mem _ hp)
    rw [List.filter_cons, List.filter_cons, pass_cons]
    by_cases hq : 0 < cost q
    · rw [decide_eq_true hq, Bool.not_true, if_neg Bool.false_ne_true, if_pos rfl, pass_cons]
      split
      next hfit => exact ((ih (rem - cost q) (sub_nonneg.mpr hfit) hc').cons q).trans List.perm_middle.symm
      next => exact ih rem hrem hc'
    · have hq0 : cost q = 0 := le_antisymm (le_of_not_gt hq) (hc q List.mem_cons_self)
      rw [decide_eq_false hq, Bool.not_false, if_pos rfl, if_neg Bool.false_ne_true, if_pos (hq0 ▸ hrem), hq0,
        sub_zero]
      exact (ih rem hrem hc').cons q

theorem mem_candidates {I : Inst} {init : List Pid} {p : Pid} :
    p ∈ (sortIds I.projects).filter (fun p => !init.contains p) ↔ p ∈ I.projects ∧ p ∉ init := by
  simp only [List.mem_filter, mem_sortIds, Bool.not_eq_true', List.contains_eq_mem, decide_eq_false_iff_not]

theorem pass_good {I : Inst} {init : List Pid} (hwf : WFInput I init) {L : List Pid} (hnd : L.Nodup)
    (hL : ∀ p, p ∈ L ↔ p ∈ I.projects ∧ p ∉ init) :
    ValidOutcome I init (init ++ pass I.cost (I.budget - costOf I.cost init) L) ∧
      Exhaustive I (init ++ pass I.cost (I.budget - costOf I.cost init) L) := by
  have hsub := pass_subset I.cost L (I.budget - costOf I.cost init)
  have hle := pass_cost_le I.cost L _ (sub_nonneg.mpr hwf.init_cost)
  have hex := pass_exhaustive I.cost L (I.budget - costOf I.cost init)
    fun p hp => hwf.cost_nonneg p ((hL p).mp hp).1
  refine ⟨⟨?_, ?_, fun p hp => List.mem_append_left _ hp, ?_⟩, fun p hpP hpW => ?_⟩
  · exact List.nodup_append.mpr ⟨hwf.init_nodup, pass_nodup _ _ _ hnd,
      fun a ha b hb e => ((hL b).mp (hsub b hb)).2 (e ▸ ha)⟩
  · exact fun p hp => (List.mem_append.mp hp).elim (hwf.init_sub p) fun h => ((hL p).mp (hsub p h)).1
  · rw [costOf_append]
    exact le_sub_iff_add_le'.mp hle
  · have := hex p ((hL p).mpr ⟨hpP, fun e => hpW (List.mem_append_left _ e)⟩)
      fun e => hpW (List.mem_append_right _ e)
    rw [costOf_append, add_assoc]
    exact sub_lt_iff_lt_add'.mp this

/-! ### For additive satisfaction the fast path and the general path select the same set -/

/-- additivity as the general path sees it: adding `p` to any allocation gains `score p` -/
def AdditiveSat (tsat : List Pid → Rat) (score : Pid → Rat) : Prop :=
  ∀ (A : List Pid) (p : Pid), tsat (A ++ [p]) - tsat A = score p

theorem additiveSat_sumOver (score : Pid → Rat) : AdditiveSat (fun l => sumOver l score) score := by
  intro A p
  change sumOver (A ++ [p]) score - sumOver A score = score p
  rw [sumOver_append, sumOver_cons, sumOver_nil]; ring

/-- the form used by the driver: Σ over voters of weight × Σ over the allocation of the voter's utility -/
theorem additiveSat_voters {ι : Type} (vs : List ι) (w : ι → Rat) (u : ι → Pid → Rat) :
    AdditiveSat (fun l => sumOver vs (fun i => w i * sumOver l (u i)))
      (fun p => sumOver vs (fun i => w i * u i p)) := by
  intro A p
  change sumOver vs (fun i => w i * sumOver (A ++ [p]) (u i)) - sumOver vs (fun i => w i * sumOver A (u i))
    = sumOver vs (fun i => w i * u i p)
  rw [← sumOver_sub]
  exact sumOver_congr fun i _ => by rw [sumOver_append, sumOver_cons, sumOver_nil]; ring

def marginalDensity (score : Pid → Rat) (cost : Pid → Rat) (p : Pid) : ERat :=
  if 0 < cost p then some (score p / cost p) else none

theorem marginal_additive {tsat : List Pid → Rat} {score : Pid → Rat} (htsat : AdditiveSat tsat score)
    (cost : Pid → Rat) (A : List Pid) (p : Pid) :
    marginal tsat cost A p = marginalDensity score cost p := by
  unfold marginal marginalDensity
  rw [htsat A p]

theorem mem_tied_iff_additive {tsat : List Pid → Rat} {score : Pid → Rat} (htsat : AdditiveSat tsat score)
    (cost : Pid → Rat) (s : State) (t : Pid) :
    t ∈ tied tsat cost s ↔ t ∈ s.feasible ∧ ∀ q ∈ s.feasible,
      ERat.le (marginalDensity score cost q) (marginalDensity score cost t) = true := by
  simp only [mem_tied_iff, marginal_additive htsat]

theorem density_eq_marginalDensity (score : Pid → Rat) (cost : Pid → Rat) (p : Pid) (hc : 0 < cost p) (hs : 0 ≤ score p) :
    density score cost p = marginalDensity score cost p := by
  unfold density marginalDensity
  rw [if_pos hc]
  split
  · rfl
  next h => rw [le_antisymm (le_of_not_gt h) hs, zero_div]

section
variable {tsat : List Pid → Rat} {score : Pid → Rat} (htsat : AdditiveSat tsat score) (I : Inst)
  {ord : List Pid → List Pid} {lt : Pid → Pid → Prop} (hasym : ∀ a b, lt a b → lt b a → False)
  (hordP : ∀ T : List Pid, T.Nodup → (ord T).Perm T ∧ (ord T).Pairwise lt)
include htsat hasym hordP

/-- The general path works through a list `l` of the undecided projects that is sorted by decreasing
    density, equal densities in tie-breaking order, exactly like the single pass: the head of `l` is
    skipped by both when it does not fit, and otherwise it is tied and comes first in the tie order. -/
theorem runP_eq_pass (l : List Pid) : ∀ (s : State) (n : Nat), s.feasible.Nodup → l.Nodup →
    (∀ p ∈ l, 0 ≤ I.cost p) →
    l.Pairwise (StableRel (fun a b => ERat.le (marginalDensity score I.cost b) (marginalDensity score I.cost a)) lt) →
    (∀ p, p ∈ s.feasible ↔ p ∈ l ∧ costOf I.cost s.alloc + I.cost p ≤ I.budget) →
    s.feasible.length ≤ n →
    (rule tsat I).runP ord n s = s.alloc ++ pass I.cost (I.budget - costOf I.cost s.alloc) l := by
  induction l with
  | nil =>
    intro s n _ _ _ _ hiff _
    have ht : (rule tsat I).tied s = [] := (tied_eq_nil_iff tsat I.cost s).mpr
      (List.eq_nil_iff_forall_not_mem.mpr fun p hp => List.not_mem_nil ((hiff p).mp hp).1)
    rw [pass_nil, List.append_nil]
    exact (rule tsat I).runP_of_nil (ht ▸ (hordP [] List.nodup_nil).1.eq_nil) n
  | cons q l' ih =>
    intro s n hfnd hlnd hlc hpw hiff hn
    obtain ⟨hql', hl'nd⟩ := List.nodup_cons.mp hlnd
    obtain ⟨hqb, hl'pw⟩ := List.pairwise_cons.mp hpw
    have hl'c : ∀ p ∈ l', 0 ≤ I.cost p := fun p hp => hlc p (List.mem_cons_of_mem _ hp)
    have hcs : costOf I.cost (s.alloc ++ [q]) = costOf I.cost s.alloc + I.cost q := costOf_snoc _ _ _
    rw [pass_cons]
    by_cases hfit : costOf I.cost s.alloc + I.cost q ≤ I.budget
    · rw [if_pos (le_sub_iff_add_le'.mpr hfit)]
      have hqf : q ∈ s.feasible := (hiff q).mpr ⟨List.mem_cons_self, hfit⟩
      have hqt : q ∈ tied tsat I.cost s := by
        refine (mem_tied_iff_additive htsat ..).mpr ⟨hqf, fun p hp => ?_⟩
        rcases List.mem_cons.mp ((hiff p).mp hp).1 with rfl | e
        exacts [ERat_le_refl _, (hqb p e).1]
      have htnd : (tied tsat I.cost s).Nodup := hfnd.filter _
      obtain ⟨hperm, hsorted⟩ := hordP _ htnd
      -- every other tied project has the same density and stands behind `q` in `l`
      obtain ⟨r, hr⟩ := head_of_pairwise hasym hsorted (hperm.mem_iff.mpr hqt) fun p hp hpq => by
        obtain ⟨hpf, hmax⟩ := (mem_tied_iff_additive htsat ..).mp (hperm.mem_iff.mp hp)
        exact (hqb p ((List.mem_cons.mp ((hiff p).mp hpf).1).resolve_left hpq)).2 (hmax q hqf)
      have hlt := buy_pool_lt tsat I s q hqt
      cases n with
      | zero => exact absurd (Nat.lt_of_lt_of_le hlt hn) (Nat.not_lt_zero _)
      | succ n =>
        rw [(rule tsat I).runP_succ_of_cons hr n]
        change (rule tsat I).runP ord n (buy I s q) = _
        rw [ih (buy I s q) n (hfnd.filter _) hl'nd hl'c hl'pw ?_ (Nat.le_of_lt_succ (Nat.lt_of_lt_of_le hlt hn))]
        · rw [buy_alloc, hcs, List.append_assoc, sub_add_eq_sub_sub]; rfl
        · intro p
          rw [mem_buy_feasible, hiff p, buy_alloc, hcs]
          constructor
          · rintro ⟨⟨h1, _⟩, h3, h4⟩
            exact ⟨(List.mem_cons.mp h1).resolve_left h3, h4⟩
          · rintro ⟨h1, h2⟩
            exact ⟨⟨List.mem_cons_of_mem _ h1, fits_before (hlc q List.mem_cons_self) h2⟩,
              fun e => hql' (e ▸ h1), h2⟩
    · rw [if_neg fun h => hfit (le_sub_iff_add_le'.mp h)]
      refine ih s n hfnd hl'nd hl'c hl'pw (fun p => ?_) hn
      rw [hiff p]
      refine and_congr_left fun h2 => ⟨fun h1 => (List.mem_cons.mp h1).resolve_left ?_, List.mem_cons_of_mem _⟩
      rintro rfl
      exact hfit h2

end

/-- For an additive satisfaction (`tsat (A ++ [p]) − tsat A = score p`) with non-negative scores and a consistent
    tie-breaking (`ord T` lists `T` in the strict order `lt`), the fast path and the general path select the
    same set of projects. -/
theorem additive_eq_general (tsat : List Pid → Rat) (score : Pid → Rat) (htsat : AdditiveSat tsat score) (I : Inst) (init : List Pid) (hwf : WFInput I init)
    (hscore : ∀ p ∈ I.projects, 0 ≤ score p)
    (order : List Pid → Except Err (List Pid)) (ord : List Pid → List Pid) (lt : Pid → Pid → Prop)
    (hasym : ∀ a b, lt a b → lt b a → False)
    (hordP : ∀ T : List Pid, T.Nodup → (ord T).Perm T ∧ (ord T).Pairwise lt)
    (horder : ∀ T, order T = .ok (ord T)) :
    ∃ Wa Wg, additive score I init order = .ok Wa ∧
      general tsat I init order = .ok Wg ∧ Wa.Perm Wg := by
  -- `M`: the candidates in tie order; the fast path passes over `M` sorted by `density`, and the
  -- general path behaves like a pass over `M` sorted by `marginalDensity`
  obtain ⟨hperm, hsorted⟩ := hordP _ ((sortIds_nodup hwf.projects_nodup).filter fun p => !init.contains p)
  generalize hM : ord ((sortIds I.projects).filter fun p => !init.contains p) = M at hperm hsorted
  have hmemM : ∀ p, p ∈ M ↔ p ∈ I.projects ∧ p ∉ init := fun p => hperm.mem_iff.trans mem_candidates
  have hpA := sortLe_perm (fun a b => ERat.le (density score I.cost b) (density score I.cost a)) M
  have hpG := sortLe_perm (fun a b => ERat.le (marginalDensity score I.cost b) (marginalDensity score I.cost a)) M
  have hrem : 0 ≤ I.budget - costOf I.cost init := sub_nonneg.mpr hwf.init_cost
  have hcM : ∀ {L : List Pid}, L.Perm M → ∀ p ∈ L, 0 ≤ I.cost p :=
    fun hL p hp => hwf.cost_nonneg p ((hmemM p).mp (hL.mem_iff.mp hp)).1
  refine ⟨_, _, by rw [additive, horder, hM],
    by rw [general, RoundRule.run_eq_runP_of _ order ord (hordP [] List.nodup_nil).1.eq_nil horder], ?_⟩
  rw [runP_eq_pass htsat I hasym hordP _ (initState I init) _ ((sortIds_nodup hwf.projects_nodup).filter _)
    (hpG.nodup_iff.mpr (hperm.nodup_iff.mpr ((sortIds_nodup hwf.projects_nodup).filter _))) (hcM hpG)
    (sortLe_stable lt (keyGe_total _) (keyGe_trans _) M hsorted)
    (fun p => by
      rw [mem_initState_feasible, hpG.mem_iff, hmemM, and_assoc]; rfl)
    (le_refl _)]
  refine List.Perm.append_left _ ((pass_perm_split I.cost _ _ hrem (hcM hpA)).trans
    ((List.Perm.append ((hpA.trans hpG.symm).filter _) ?_).trans
      (pass_perm_split I.cost _ _ hrem (hcM hpG)).symm))
  rw [sortLe_filter_congr hasym (keyGe_total _) (keyGe_trans _) (keyGe_total _) (keyGe_trans _) hsorted (fun p => decide (0 < I.cost p))
    fun a ha b hb hqa hqb => by
      rw [density_eq_marginalDensity score I.cost a (of_decide_eq_true hqa) (hscore a ((hmemM a).mp ha).1),
        density_eq_marginalDensity score I.cost b (of_decide_eq_true hqb) (hscore b ((hmemM b).mp hb).1)]]

end Greedy
end Pabu
