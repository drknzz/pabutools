/-
  Lemmas about the relaxed stable condition of the price-system validator
  (`validate_price_system(..., stable=True, relaxation=R)`): the conditions as propositions (`ExactRelaxed`,
  `BrokenByRelaxed`; with the true costs as relaxed costs `ExactRelaxed` is the plain `Exact`, and a `BrokenBy` is a
  `BrokenByRelaxed`), the executable `exactRelaxed` decides them, and the relaxed validator rejects whatever is broken by
  more than half a cent.
-/
import PabuProofs.Lemmas.Price
namespace Pabu.Price

/-- `(X.b, payments of X.N)` is a price system for `X.W` whose stability condition S5 holds with the relaxed
    costs `rc` on the right-hand side (all other conditions are those of `Exact`) -/
structure ExactRelaxed (X : Input) (rc : Pid → Rat) (stable exhaustive : Bool) : Prop where
  feasible : X.total ≤ X.budget
  exhaust : exhaustive = true → ∀ c ∈ X.NW, ¬ (X.total + X.cost c ≤ X.budget)
  approved : ∀ v ∈ X.N, ∀ c ∈ X.C, v.app c = false → v.pay c = 0
  nonneg : ∀ v ∈ X.N, ∀ c ∈ X.C, 0 ≤ v.pay c
  within : ∀ v ∈ X.N, spent X v ≤ X.b
  selected : ∀ c ∈ X.W, paidFor X c = X.cost c
  unselected : ∀ c ∈ X.NW, paidFor X c = 0
  noMoney : stable = false → ∀ c ∈ X.NW, leftoverOf X c ≤ X.cost c
  stab : stable = true → ∀ c ∈ X.NW, stableOf X c ≤ rc c

theorem s5R_congr (X : Input) (rc rc' : Pid → Rat) (h : ∀ c ∈ X.NW, rc c = rc' c) : s5R X rc = s5R X rc' := by
  rw [Bool.eq_iff_iff, s5R_iff, s5R_iff]
  exact forall₂_congr (fun c hc => by rw [h c hc])

theorem es5R_congr (X : Input) (rc rc' : Pid → Rat) (h : ∀ c ∈ X.NW, rc c = rc' c) : es5R X rc = es5R X rc' := by
  rw [Bool.eq_iff_iff, es5R_iff, es5R_iff]
  exact forall₂_congr (fun c hc => by rw [h c hc])

theorem s5R_cost (X : Input) : s5R X X.cost = s5 X := rfl

theorem es5R_cost (X : Input) : es5R X X.cost = es5 X := rfl

theorem exactRelaxed_iff (X : Input) (rc : Pid → Rat) (stable exhaustive : Bool) :
    exactRelaxed X rc stable exhaustive = true ↔ ExactRelaxed X rc stable exhaustive := by
  rw [exactRelaxed, tests_eq_true, c0a_iff, c0b_iff, c1_iff, eNeg_iff, e2_iff, e3_iff, e4_iff, e5_iff, es5R_iff]
  exact ⟨fun ⟨h0, hb, h1, hn, h2, h3, h4, h5, hs⟩ => ⟨h0, hb, h1, hn, h2, h3, h4, h5, hs⟩,
    fun ⟨h0, hb, h1, hn, h2, h3, h4, h5, hs⟩ => ⟨h0, hb, h1, hn, h2, h3, h4, h5, hs⟩⟩

theorem exactRelaxed_cost_iff (X : Input) (stable exhaustive : Bool) :
    ExactRelaxed X X.cost stable exhaustive ↔ Exact X stable exhaustive :=
  ⟨fun ⟨h0, hb, h1, hn, h2, h3, h4, h5, hs⟩ => ⟨h0, hb, h1, hn, h2, h3, h4, h5, hs⟩,
   fun ⟨h0, hb, h1, hn, h2, h3, h4, h5, hs⟩ => ⟨h0, hb, h1, hn, h2, h3, h4, h5, hs⟩⟩

theorem exact_iff (X : Input) (stable exhaustive : Bool) : exact X stable exhaustive = true ↔ Exact X stable exhaustive :=
  (exactRelaxed_iff X X.cost stable exhaustive).trans (exactRelaxed_cost_iff X stable exhaustive)

/-- some condition is violated by at least `δ`, the stability condition being read with the relaxed costs -/
inductive BrokenByRelaxed (δ : Rat) (X : Input) (rc : Pid → Rat) (stable exhaustive : Bool) : Prop where
  | c0a : X.budget < X.total → BrokenByRelaxed δ X rc stable exhaustive
  | c0b : exhaustive = true → (∃ c ∈ X.NW, X.total + X.cost c ≤ X.budget) → BrokenByRelaxed δ X rc stable exhaustive
  | c1 : (∃ v ∈ X.N, ∃ c ∈ X.C, v.app c = false ∧ v.pay c ≠ 0) → BrokenByRelaxed δ X rc stable exhaustive
  | neg : (∃ v ∈ X.N, ∃ c ∈ X.C, v.pay c ≤ -δ) → BrokenByRelaxed δ X rc stable exhaustive
  | c2 : (∃ v ∈ X.N, X.b + δ ≤ spent X v) → BrokenByRelaxed δ X rc stable exhaustive
  | c3 : (∃ c ∈ X.W, δ ≤ |paidFor X c - X.cost c|) → BrokenByRelaxed δ X rc stable exhaustive
  | c4 : (∃ c ∈ X.NW, δ ≤ |paidFor X c|) → BrokenByRelaxed δ X rc stable exhaustive
  | c5 : stable = false → (∃ c ∈ X.NW, X.cost c + δ ≤ leftoverOf X c) → BrokenByRelaxed δ X rc stable exhaustive
  | s5 : stable = true → (∃ c ∈ X.NW, rc c + δ ≤ stableOf X c) → BrokenByRelaxed δ X rc stable exhaustive

theorem BrokenBy.relaxed {δ : Rat} {X : Input} {stable exhaustive : Bool} (B : BrokenBy δ X stable exhaustive) :
    BrokenByRelaxed δ X X.cost stable exhaustive := by
  cases B with
  | c0a h => exact .c0a h
  | c0b he h => exact .c0b he h
  | c1 h => exact .c1 h
  | neg h => exact .neg h
  | c2 h => exact .c2 h
  | c3 h => exact .c3 h
  | c4 h => exact .c4 h
  | c5 hs h => exact .c5 hs h
  | s5 hs h => exact .s5 hs h

theorem validateRelaxed_sound_half_cent (δ : Rat) (hδ : 1 / 200 < δ) (X : Input) (rc : Pid → Rat)
    (stable exhaustive : Bool) (B : BrokenByRelaxed δ X rc stable exhaustive) :
    validateRelaxed X rc stable exhaustive = false := by
  rw [← Bool.not_eq_true, validateRelaxed_iff]
  rintro ⟨h0, hb, h1, hn, h2, h3, h4, h5, hs5⟩
  -- a rounded test that is broken by `δ` and yet passes (up to 1/200) chains the two bounds to `δ ≤ 1/200`
  have hδ' : ¬ δ ≤ 1 / 200 := not_le.mpr hδ
  cases B with
  | c0a h => exact absurd h0 (not_le.mpr h)
  | c0b he h =>
    obtain ⟨c, hc, hle⟩ := h
    exact hb he c hc hle
  | c1 h =>
    obtain ⟨v, hv, c, hc, ha, hp⟩ := h
    exact hp (h1 v hv c hc ha)
  | neg h =>
    obtain ⟨v, hv, c, hc, hp⟩ := h
    exact hδ' (neg_le_neg_iff.mp (le_trans (hn v hv c hc) hp))
  | c2 h =>
    obtain ⟨v, hv, hp⟩ := h
    exact hδ' (le_of_add_le_add_left (le_trans hp (h2 v hv)))
  | c3 h =>
    obtain ⟨c, hc, hp⟩ := h
    exact hδ' (le_trans hp (h3 c hc))
  | c4 h =>
    obtain ⟨c, hc, hp⟩ := h
    exact hδ' (le_trans hp (h4 c hc))
  | c5 hs h =>
    obtain ⟨c, hc, hp⟩ := h
    exact hδ' (le_of_add_le_add_left (le_trans hp (h5 hs c hc)))
  | s5 hs h =>
    obtain ⟨c, hc, hp⟩ := h
    exact hδ' (le_of_add_le_add_left (le_trans hp (hs5 hs c hc)))

theorem validate_stable_iff (X : Input) (exhaustive : Bool) :
    validate X true exhaustive = true ↔
      (c0a X && (!exhaustive || c0b X) && c1 X && cNeg X && c2 X && c3 X && c4 X) = true ∧ s5 X = true := by
  unfold validate
  simp only [Bool.and_eq_true, if_true]

end Pabu.Price
