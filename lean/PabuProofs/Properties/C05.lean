/-
  C05 — sequential Phragmén selects exactly what its definition prescribes.

  Model: PabuModel.Phragmen (`run`, `runAll`: the functions the driver runs).
  Supporting lemmas: PabuProofs.Lemmas.Phragmen.

  The money process.  All voters earn money at rate 1; voter entry `i` (counted `m i` times) has paid for
  its last purchase at time `load i`, so at time `x` it holds `x − load i` (negative balances are possible
  when the initial loads are unequal).  A project `p` with at least one supporter is purchasable at the
  instant `x` at which its supporters' balances add up to its cost; then their balances are reset to 0,
  i.e. their loads become `x`.  The next purchase is an undecided project with the earliest instant
  (`IsEarliest`); the process stops when no project is left or a project purchasable at that instant
  would exceed the budget (`Stops`).  Unsupported projects have instant +∞ (`none`).

  Vocabulary (PabuProofs.Lemmas.Phragmen): `IsEarliest`, `IsNext`, `Stops`, `SpecRun` (resolute, with
  tie-breaking), `SpecRunAny` (irresolute), `expand` (multiplicities as copies), `instOf`.
-/
import PabuProofs.Lemmas.Tie
namespace Pabu
namespace C05
open GreedyAux Phragmen

/-! ### The purchase instant -/

theorem purchase_instant (C : Ctx) (s : State) (p : Pid) (x : Rat) :
    newMax C s p = some x ↔
      score C p ≠ 0 ∧
      x * ((score C p : Nat) : Rat) = sumOver (supporters C p) (fun i => (C.m i : Rat) * s.load i) + C.cost p := by
  unfold newMax
  by_cases h : score C p = 0
  · rw [if_pos h]
    exact ⟨fun h' => (nomatch h'), fun h' => absurd h h'.1⟩
  · have hne : ((score C p : Nat) : Rat) ≠ 0 := Nat.cast_ne_zero.mpr h
    rw [if_neg h, Option.some_inj, div_eq_iff hne, eq_comm]
    exact (and_iff_right h).symm

/-- `newMax p = x` iff `p` has a supporter and the supporters' balances `x − loadᵢ` (with multiplicities)
    add up to exactly the cost of `p` -/
theorem purchase_instant_balances (C : Ctx) (s : State) (p : Pid) (x : Rat) :
    newMax C s p = some x ↔
      score C p ≠ 0 ∧ sumOver (supporters C p) (fun i => (C.m i : Rat) * (x - s.load i)) = C.cost p := by
  -- Σ mᵢ·(x − loadᵢ) = x · score − Σ mᵢ·loadᵢ
  have hsum : sumOver (supporters C p) (fun i => (C.m i : Rat) * (x - s.load i)) =
      x * ((score C p : Nat) : Rat) - sumOver (supporters C p) (fun i => (C.m i : Rat) * s.load i) := by
    rw [score, sumNat_cast, ← sumOver_mul_left, ← sumOver_sub]
    exact sumOver_congr fun i _ => by ring
  rw [purchase_instant, hsum, sub_eq_iff_eq_add']

/-- a project is never purchasable (instant +∞) iff nobody supports it -/
theorem never_purchasable_iff (C : Ctx) (s : State) (p : Pid) : newMax C s p = none ↔ score C p = 0 := by
  unfold newMax
  split
  next h => exact iff_of_true rfl h
  next h => exact iff_of_false (fun h' => nomatch h') h

/-- the state after a purchase: the project joins the allocation, its cost is spent, it leaves the pool,
    every supporter's load becomes the purchase instant, nobody else's load changes -/
theorem purchase_effect (C : Ctx) (s : State) (t : Pid) :
    (buy C s t).alloc = s.alloc ++ [t] ∧ (buy C s t).spent = s.spent + C.cost t ∧
    (buy C s t).pool = s.pool.filter (fun q => q != t) ∧
    (∀ x, newMax C s t = some x → ∀ i, C.app i t = true → (buy C s t).load i = x) ∧
    (∀ i, C.app i t = false → (buy C s t).load i = s.load i) ∧
    (newMax C s t = none → ∀ i, (buy C s t).load i = s.load i) :=
  ⟨rfl, rfl, rfl, fun x hx i hi => buy_load_supporter C s t x hx i hi,
   fun i hi => buy_load_other C s t i hi, fun hx i => buy_load_unsupported C s t hx i⟩

/-! ### Which project is bought, and when the process stops -/

theorem bought_is_next (C : Ctx) (s : State) (t : Pid) : t ∈ (rule C).tied s ↔ IsNext C s t :=
  mem_tied_iff_isNext C s t

theorem stops_iff (C : Ctx) (s : State) : (rule C).tied s = [] ↔ Stops C s :=
  tied_eq_nil_iff_stops C s

/-! ### Runs -/

/-- the initial state: undecided = projects outside the initial allocation that cost at most the whole
    budget (the implementation's convention), in name order; spending = cost of the initial allocation -/
theorem initial_state (C : Ctx) (projects init : List Pid) (loads : Nat → Rat) :
    (initState C projects init loads).load = loads ∧ (initState C projects init loads).alloc = init ∧
    (initState C projects init loads).spent = costOf C.cost init ∧
    ∀ p, p ∈ (initState C projects init loads).pool ↔ p ∈ projects ∧ p ∉ init ∧ C.cost p ≤ C.budget :=
  ⟨rfl, rfl, rfl, fun _ => mem_initState_pool⟩

/-- Resolute executable run, any tie-breaking that returns a permutation of the tied projects or raises:
    the result is a valid allocation and is the one the definition builds from the initial state. -/
theorem run_follows_definition (C : Ctx) (projects init : List Pid) (loads : Nat → Rat) (hinit : init.Nodup)
    (hsub : ∀ p ∈ init, p ∈ projects) (hcost : costOf C.cost init ≤ C.budget)
    (order : List Pid → Except Err (List Pid)) (hord : ∀ T l, order T = .ok l → l.Perm T)
    (W : List Pid) (h : run C projects init loads order = .ok W) :
    ValidOutcome (instOf C projects) init W ∧ SpecRun C order (initState C projects init loads) W :=
  run_spec C projects init order (fun T l hl => perm_mem_ne (hord T l hl)) _ _ W (inv_init C projects init loads hinit hsub hcost) (le_refl _) h

theorem run_follows_definition_tie (C : Ctx) (projects init : List Pid) (loads : Nat → Rat) (hinit : init.Nodup)
    (hsub : ∀ p ∈ init, p ∈ projects) (hcost : costOf C.cost init ≤ C.budget)
    (t : Tie) (sc : Pid → Nat) (W : List Pid) (h : run C projects init loads (t.order C.cost sc) = .ok W) :
    ValidOutcome (instOf C projects) init W ∧
      SpecRun C (t.order C.cost sc) (initState C projects init loads) W :=
  run_follows_definition C projects init loads hinit hsub hcost _ (Tie.order_perm _ _ _) W h

/-- with a total tie-breaking function the resolute run always returns -/
theorem run_returns (C : Ctx) (projects init : List Pid) (loads : Nat → Rat) (t : Tie) (ht : t ≠ .refuse)
    (sc : Pid → Nat) : ∃ W, run C projects init loads (t.order C.cost sc) = .ok W :=
  ⟨_, RoundRule.run_eq_runP_of _ _ _ rfl (Tie.order_ok ht C.cost sc) _ _⟩

/-- Irresolute pure run = exactly the allocations the irresolute definition can build. -/
theorem runAllP_iff_spec (C : Ctx) (s : State) (n : Nat) (hn : s.pool.length ≤ n) (W : List Pid) :
    W ∈ (rule C).runAllP n s ↔ SpecRunAny C s W :=
  ⟨fun h => (runAllP_spec C [] [] n s hn W h).2, fun h => runAllP_complete h n hn⟩

/-- Irresolute executable run: the returned list is exactly the set of name-sorted allocations the
    irresolute definition can build; each is valid. -/
theorem runAll_follows_definition (C : Ctx) (projects init : List Pid) (loads : Nat → Rat) (hinit : init.Nodup)
    (hsub : ∀ p ∈ init, p ∈ projects) (hcost : costOf C.cost init ≤ C.budget)
    (order : List Pid → Except Err (List Pid)) (hord : ∀ T l, order T = .ok l → l.Perm T)
    (Ws : List (List Pid)) (h : runAll C projects init loads order = .ok Ws) :
    (∀ W ∈ Ws, ValidOutcome (instOf C projects) init W) ∧
    (∀ W, W ∈ Ws ↔ ∃ W', SpecRunAny C (initState C projects init loads) W' ∧ W = sortIds W') := by
  have hmem := RoundRule.runAll_canon_iff (rule C) order hord h
  refine ⟨fun W hW => ?_, fun W => ?_⟩
  · obtain ⟨W', hW', rfl⟩ := (hmem W).mp hW
    exact ((runAllP_spec C projects init _ _ (le_refl _) W' hW').1
      (inv_init C projects init loads hinit hsub hcost)).perm (sortIds_perm W')
  · rw [hmem]
    exact exists_congr fun W' => and_congr_left fun _ => runAllP_iff_spec C _ _ (le_refl _) W'

theorem runAll_follows_definition_tie (C : Ctx) (projects init : List Pid) (loads : Nat → Rat)
    (hinit : init.Nodup) (hsub : ∀ p ∈ init, p ∈ projects) (hcost : costOf C.cost init ≤ C.budget)
    (t : Tie) (sc : Pid → Nat) (Ws : List (List Pid))
    (h : runAll C projects init loads (t.order C.cost sc) = .ok Ws) :
    (∀ W ∈ Ws, ValidOutcome (instOf C projects) init W) ∧
    (∀ W, W ∈ Ws ↔ ∃ W', SpecRunAny C (initState C projects init loads) W' ∧ W = sortIds W') :=
  runAll_follows_definition C projects init loads hinit hsub hcost _ (Tie.order_perm _ _ _) Ws h

/-! ### Multiplicities count as that many identical voters -/

theorem multiplicity_is_copies (C : Ctx) (projects init : List Pid) (loads : Nat → Rat)
    (order : List Pid → Except Err (List Pid)) :
    run (expand C) projects init loads order = run C projects init loads order ∧
    runAll (expand C) projects init loads order = runAll C projects init loads order := by
  constructor
  · unfold run
    rw [rule_expand]
    rfl
  · unfold runAll
    rw [rule_expand]
    rfl

/-! ### The hypotheses are satisfiable on a concrete non-trivial input

  three ballot entries {0,1} ×2, {1,2} ×1, {} ×1; costs 2,3,5 and an unsupported project 3 of cost 1;
  budget 6; unequal initial loads; initial allocation [3]. -/

def exC : Ctx :=
  { vs := [0, 1, 2], m := fun i => if i = 0 then 2 else 1,
    app := fun i p => (i == 0 && (p == 0 || p == 1)) || (i == 1 && (p == 1 || p == 2)),
    cost := fun p => if p = 0 then 2 else if p = 1 then 3 else if p = 2 then 5 else 1, budget := 6 }

example : ([3] : List Pid).Nodup ∧ (∀ p ∈ ([3] : List Pid), p ∈ [0, 1, 2, 3]) ∧ costOf exC.cost [3] ≤ exC.budget := by
  refine ⟨by decide, by decide, ?_⟩
  show (1 : Rat) + 0 ≤ 6
  norm_num

example (t : Tie) (sc : Pid → Nat) : ∀ T l, t.order exC.cost sc T = .ok l → l.Perm T :=
  Tie.order_perm t _ sc

example : ∃ W, run exC [0, 1, 2, 3] [3] (fun i => if i = 1 then 1 / 2 else 0)
    (Tie.lexico.order exC.cost (fun _ => 0)) = .ok W :=
  run_returns exC _ _ _ Tie.lexico (by decide) _

end C05
end Pabu

#print axioms Pabu.C05.purchase_instant_balances
#print axioms Pabu.C05.purchase_instant
#print axioms Pabu.C05.purchase_effect
#print axioms Pabu.C05.bought_is_next
#print axioms Pabu.C05.stops_iff
#print axioms Pabu.C05.run_follows_definition
#print axioms Pabu.C05.run_follows_definition_tie
#print axioms Pabu.C05.run_returns
#print axioms Pabu.C05.runAllP_iff_spec
#print axioms Pabu.C05.runAll_follows_definition
#print axioms Pabu.C05.initial_state
#print axioms Pabu.C05.multiplicity_is_copies
