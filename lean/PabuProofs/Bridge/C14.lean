/-
  Bridge C14 — the regenerated leaf formulas of the cohesiveness / justified-representation checkers
  (Gen/C14.lean, produced on every run from the current source of pabutools/analysis/cohesiveness.py and
  pabutools/analysis/justifiedrepresentation.py) are the formulas of the model (PabuModel/JR.lean): `adm`,
  `surplus`, `missing`, and the decisive comparison of every checker family (`voterOk` / `good`).
-/
import Gen.C14
import PabuProofs.Lemmas.JR
import Mathlib.Tactic.NormNum
namespace Pabu.Bridge.C14

/-- `is_large_enough`: `projects_cost * num_voters <= group_size * budget_limit` (no division) -/
theorem isLargeEnough_formula (size n cost budget : Rat) :
    Gen.C14.isLargeEnough size n cost budget = decide (cost * n ≤ size * budget) := rfl

theorem isLargeEnough (E : JR.Setting) (size : Nat) (T : List Pid) :
    JR.largeEnough E size T =
      Gen.C14.isLargeEnough ((size : Nat) : Rat) ((E.n : Nat) : Rat) (costOf E.cost T) E.budget := rfl

theorem length_pos_eq {α : Type} (l : List α) : decide (((l.length : Nat) : Rat) > 0) = !l.isEmpty := by
  cases l with
  | nil => simp
  | cons a r => exact decide_eq_true (Nat.cast_pos.mpr (Nat.succ_pos _))

theorem length_zero_eq {α : Type} (l : List α) : decide (((l.length : Nat) : Rat) = 0) = l.isEmpty := by
  cases l with
  | nil => simp
  | cons a r => exact decide_eq_false (Nat.cast_ne_zero.mpr (Nat.succ_ne_zero _))

theorem le_eq_not_lt (a b : Rat) : decide (a ≤ b) = !decide (b < a) := by
  rw [← decide_not, decide_eq_decide, not_lt]

/-- `… for p in project_set if p not in budget_allocation` -/
theorem missing (W T : List Pid) : JR.missing W T = T.filter (fun p => Gen.C14.missing (W.contains p)) := rfl

/-- `surplus = 0` when no `up_to_func` is given -/
theorem noSurplus (l : List Rat) : JR.surplus .none l = Gen.C14.noSurplus := rfl

/-- the `*_any_*` checkers pass `lambda x: min(x, default=0)` -/
theorem upToAny (l : List Rat) :
    JR.surplus .any l = Gen.C14.upToAnyEJRApproval ((minRat l).getD 0) ∧
    JR.surplus .any l = Gen.C14.upToAnyEJRCardinal ((minRat l).getD 0) ∧
    JR.surplus .any l = Gen.C14.upToAnyPJRApproval ((minRat l).getD 0) ∧
    JR.surplus .any l = Gen.C14.upToAnyPJRCardinal ((minRat l).getD 0) := ⟨rfl, rfl, rfl, rfl⟩

/-- the `*_one_*` checkers pass `lambda x: max(x, default=0)` -/
theorem upToOne (l : List Rat) :
    JR.surplus .one l = Gen.C14.upToOneEJRApproval ((maxRat l).getD 0) ∧
    JR.surplus .one l = Gen.C14.upToOneEJRCardinal ((maxRat l).getD 0) ∧
    JR.surplus .one l = Gen.C14.upToOnePJRApproval ((maxRat l).getD 0) ∧
    JR.surplus .one l = Gen.C14.upToOnePJRCardinal ((maxRat l).getD 0) := ⟨rfl, rfl, rfl, rfl⟩

/-- `is_in_core` looks at a pair when `len(group) > 0` and `is_large_enough(…)` -/
theorem coreAdm (E : JR.Setting) (card : Bool) (size : Nat) (S : List JR.Voter) (T : List Pid) :
    JR.adm E card .core size S T =
      (Gen.C14.coreGroupNonEmpty ((S.length : Nat) : Rat) && Gen.C14.coreSizeTest (JR.largeEnough E size T)) := by
  unfold JR.adm Gen.C14.coreGroupNonEmpty Gen.C14.coreSizeTest
  rw [length_pos_eq, Bool.and_comm]

/-- `is_in_core`: `sat.sat(budget_allocation) + surplus >= sat.sat(project_set)`, the group does not block as soon
    as one member passes -/
theorem coreVoterOk (E : JR.Setting) (card : Bool) (up : JR.UpTo) (W : List Pid) (S : List JR.Voter) (T : List Pid) :
    JR.good E card .core up W S T =
      S.any (fun v => Gen.C14.coreVoterOk (JR.satV v W) (JR.surplus up ((JR.missing W T).map v.u)) (JR.satV v T)) := rfl

theorem voterOk_none (card : Bool) (k : JR.Kind) (W : List Pid) (S : List JR.Voter) (T : List Pid) (v : JR.Voter) :
    JR.voterOk card k .none W S T v = !decide (JR.satV v W < JR.threshold card k S T v) := by
  unfold JR.voterOk JR.surplus
  rw [add_zero, le_eq_not_lt]

/-- `is_strong_EJR_approval`: some member with `sat.sat(budget_allocation) < sat.sat(project_set)` refutes -/
theorem strongEJRApproval (E : JR.Setting) (up : JR.UpTo) (W : List Pid) (S : List JR.Voter) (T : List Pid) :
    JR.good E false .strong up W S T =
      S.all (fun v => !Gen.C14.strongEJRApprovalFails (JR.satV v W) (JR.satV v T)) :=
  congrArg S.all (funext (voterOk_none false .strong W S T))

/-- `is_strong_EJR_cardinal`: the threshold is `sum(min(b[p] for b in group) for p in project_set)` -/
theorem strongEJRCardinal (E : JR.Setting) (up : JR.UpTo) (W : List Pid) (S : List JR.Voter) (T : List Pid) :
    JR.good E true .strong up W S T =
      S.all (fun v => !Gen.C14.strongEJRCardinalFails (JR.satV v W)
        (sumOver T (fun p => Gen.C14.cardThresholdSummand (JR.minOver S p)))) :=
  congrArg S.all (funext (voterOk_none true .strong W S T))

/-- `is_EJR_approval`: `sat.sat(budget_allocation) + surplus >= sat.sat(project_set)` for one member -/
theorem ejrApproval (E : JR.Setting) (up : JR.UpTo) (W : List Pid) (S : List JR.Voter) (T : List Pid) :
    JR.good E false .ejr up W S T =
      S.any (fun v => Gen.C14.ejrApprovalOk (JR.satV v W) (JR.surplus up ((JR.missing W T).map v.u)) (JR.satV v T)) := rfl

/-- `is_EJR_cardinal`: `sat.sat(budget_allocation) + surplus >= threshold` for one member -/
theorem ejrCardinal (E : JR.Setting) (up : JR.UpTo) (W : List Pid) (S : List JR.Voter) (T : List Pid) :
    JR.good E true .ejr up W S T =
      S.any (fun v => Gen.C14.ejrCardinalOk (JR.satV v W) (JR.surplus up ((JR.missing W T).map v.u))
        (sumOver T (fun p => Gen.C14.cardThresholdSummand (JR.minOver S p)))) := rfl

/-- `is_PJR_approval`: `group_sat < threshold` refutes, `group_sat = sat.sat(group_approved) + surplus`,
    `group_approved = {p for p in budget_allocation if any(p in b for b in group)}`, `sat` the measure of the
    ballot approving everything -/
theorem pjrApproval (E : JR.Setting) (up : JR.UpTo) (W : List Pid) (S : List JR.Voter) (T : List Pid) :
    JR.good E false .pjr up W S T =
      !Gen.C14.pjrApprovalFails
        (Gen.C14.pjrApprovalGroupSat
          (sumOver (W.filter (fun p => Gen.C14.pjrGroupApproves (S.any (fun v => v.app p)))) E.full)
          (JR.surplus up ((JR.missing W T).map E.full)))
        (Gen.C14.pjrApprovalThreshold (sumOver T E.full)) := by
  show decide (sumOver T E.full ≤ sumOver (JR.groupApproved W S) E.full + JR.surplus up ((JR.missing W T).map E.full)) = _
  rw [le_eq_not_lt]
  rfl

/-- `is_PJR_cardinal`: `group_sat + surplus < threshold` refutes,
    `group_sat = sum(max(b[p] for b in group) for p in budget_allocation)` -/
theorem pjrCardinal (E : JR.Setting) (up : JR.UpTo) (W : List Pid) (S : List JR.Voter) (T : List Pid) :
    JR.good E true .pjr up W S T =
      !Gen.C14.pjrCardinalFails
        (sumOver W (fun p => Gen.C14.pjrCardinalGroupSummand (JR.maxOver S p)))
        (JR.surplus up ((JR.missing W T).map (JR.maxOver S)))
        (sumOver T (fun p => Gen.C14.cardThresholdSummand (JR.minOver S p))) := by
  show decide (sumOver T (JR.minOver S) ≤ sumOver W (JR.maxOver S) + JR.surplus up ((JR.missing W T).map (JR.maxOver S))) = _
  rw [le_eq_not_lt]
  rfl

/-- the guards `len(group) > 0`, `len(project_set) > 0` of `cohesive_groups` -/
theorem cohGuards (S : List JR.Voter) (T : List Pid) :
    Gen.C14.cohGroupNonEmpty ((S.length : Nat) : Rat) = !S.isEmpty ∧
    Gen.C14.cohSetNonEmpty ((T.length : Nat) : Rat) = !T.isEmpty :=
  ⟨length_pos_eq S, length_pos_eq T⟩

/-- `is_cohesive_approval`: large enough, neither collection empty, and no (ballot, project) pair with
    `p not in ballot` -/
theorem cohesiveApproval (E : JR.Setting) (k : JR.Kind) (hk : k ≠ .core) (size : Nat) (S : List JR.Voter) (T : List Pid) :
    JR.adm E false k size S T =
      (!Gen.C14.cohApprovalTooSmall (JR.largeEnough E size T) &&
       !Gen.C14.cohApprovalEmpty ((S.length : Nat) : Rat) ((T.length : Nat) : Rat) &&
       S.all (fun v => T.all (fun p => !Gen.C14.cohApprovalPairFails (v.app p)))) := by
  unfold Gen.C14.cohApprovalTooSmall Gen.C14.cohApprovalEmpty Gen.C14.cohApprovalPairFails
  rw [JR.adm_noncore E false hk, length_zero_eq, length_zero_eq]
  simp only [JR.adm, JR.unanimous, Bool.not_not, Bool.not_or, Bool.false_or, Bool.and_assoc]

theorem minOver_le (S : List JR.Voter) (p : Pid) (v : JR.Voter) (hv : v ∈ S) : JR.minOver S p ≤ v.u p :=
  JR.minOver_le S v hv p

/-- `is_cohesive_cardinal` as `cohesive_groups` calls it (`alpha[p] = min(b[p] for b in group)`): large enough,
    neither collection empty, and no pair with `ballot[p] < alpha[p]` — which, for that `alpha`, never happens;
    this is why the model's `adm` has no score test for cardinal ballots -/
theorem cohesiveCardinal (E : JR.Setting) (k : JR.Kind) (hk : k ≠ .core) (size : Nat) (S : List JR.Voter) (T : List Pid) :
    JR.adm E true k size S T =
      (!Gen.C14.cohCardinalTooSmall (JR.largeEnough E size T) &&
       !Gen.C14.cohCardinalEmpty ((S.length : Nat) : Rat) ((T.length : Nat) : Rat) &&
       S.all (fun v => T.all (fun p => !Gen.C14.cohCardinalPairFails (v.u p) (Gen.C14.cohAlphaMin (JR.minOver S p))))) := by
  have hall : S.all (fun v => T.all (fun p =>
      !Gen.C14.cohCardinalPairFails (v.u p) (Gen.C14.cohAlphaMin (JR.minOver S p)))) = true := by
    simp only [List.all_eq_true]
    intro v hv p _
    exact (le_eq_not_lt _ _).symm.trans (decide_eq_true (minOver_le S p v hv))
  unfold Gen.C14.cohCardinalTooSmall Gen.C14.cohCardinalEmpty
  rw [hall, JR.adm_noncore E true hk, length_zero_eq, length_zero_eq]
  simp only [JR.adm, Bool.not_not, Bool.not_or, Bool.true_or, Bool.and_true, Bool.and_assoc]

/-! ### `is_cohesive_approval` / `is_cohesive_cardinal` as whole functions (statement-level leaves) -/

theorem earlyExit_getD {α : Type} (bad : α → Bool) (r : List α) (o : Option Bool) :
    (if r.any bad then some false else o).getD true = (r.all (fun y => !bad y) && o.getD true) := by
  rw [← List.not_any_eq_all_not]
  cases r.any bad <;> rfl

/-- the guards in front of the loop: `if not large: return False`, `if empty: return False` -/
theorem guards_eq (large empty r : Bool) :
    (if (!large) = true then false else if empty = true then false else r) = (!(!large) && !empty && r) := by
  cases large <;> cases empty <;> rfl

private theorem approvalLoop (a : Bool) (b c : Rat) : ∀ (rows : List (List Bool)),
    (Gen.C14.isCohesiveApprovalFnLoop a b c rows).getD true = rows.all (fun r => r.all (fun y => !(!y)))
  | [] => rfl
  | r :: rows => by
    rw [Gen.C14.isCohesiveApprovalFnLoop, earlyExit_getD, approvalLoop a b c rows, List.all_cons]

/-- the WHOLE of `is_cohesive_approval` — size guard, emptiness guard, the double loop with its early `return False`,
    `return True` — is the model's admissibility test -/
theorem isCohesiveApprovalFn (E : JR.Setting) (k : JR.Kind) (hk : k ≠ .core) (size : Nat) (S : List JR.Voter) (T : List Pid) :
    JR.adm E false k size S T =
      Gen.C14.isCohesiveApprovalFn (JR.largeEnough E size T) ((S.length : Nat) : Rat) ((T.length : Nat) : Rat)
        (S.map (fun v => T.map (fun p => v.app p))) := by
  rw [cohesiveApproval E k hk size S T, Gen.C14.isCohesiveApprovalFn, guards_eq]
  simp only [approvalLoop, List.all_map, Function.comp_def]
  rfl

private theorem cardinalLoop (a : Bool) (b c : Rat) : ∀ (rows : List (List (Rat × Rat))),
    (Gen.C14.isCohesiveCardinalFnLoop a b c rows).getD true =
      rows.all (fun r => r.all (fun y => !decide (y.1 < y.2)))
  | [] => rfl
  | r :: rows => by
    rw [Gen.C14.isCohesiveCardinalFnLoop, earlyExit_getD, cardinalLoop a b c rows, List.all_cons]

/-- the WHOLE of `is_cohesive_cardinal`, called as `cohesive_groups` calls it (`alpha[p]` = the group's minimum score of `p`) -/
theorem isCohesiveCardinalFn (E : JR.Setting) (k : JR.Kind) (hk : k ≠ .core) (size : Nat) (S : List JR.Voter) (T : List Pid) :
    JR.adm E true k size S T =
      Gen.C14.isCohesiveCardinalFn (JR.largeEnough E size T) ((S.length : Nat) : Rat) ((T.length : Nat) : Rat)
        (S.map (fun v => T.map (fun p => (v.u p, Gen.C14.cohAlphaMin (JR.minOver S p))))) := by
  rw [cohesiveCardinal E k hk size S T, Gen.C14.isCohesiveCardinalFn, guards_eq]
  simp only [cardinalLoop, List.all_map, Function.comp_def]
  rfl

example : Gen.C14.isLargeEnough 2 4 5 10 = true ∧ Gen.C14.isLargeEnough 1 4 5 10 = false := by
  norm_num [Gen.C14.isLargeEnough]

example : Gen.C14.coreVoterOk 1 1 2 = true ∧ Gen.C14.coreVoterOk 1 0 2 = false ∧
    Gen.C14.pjrCardinalFails 1 0 2 = true ∧ Gen.C14.cohCardinalPairFails 1 1 = false := by
  norm_num [Gen.C14.coreVoterOk, Gen.C14.pjrCardinalFails, Gen.C14.cohCardinalPairFails]

end Pabu.Bridge.C14
