/-
  Lemmas about the analytics of a recorded Equal Shares run (PabuModel/MESAnalytics.lean):
  * project loss: along a faithful record (`Recorded`), for EVERY project the money its supporters
    hold at the start of an iteration plus what they spent on the projects bought before is the
    money they started with (`conserve_prefix`, `conserve_after`); the records of
    `projectLoss` are `mkLoss` records over prefixes of the record (`mem_lossGo`);
  * effective support: the running maximum (`effFold_*`);
  * project details: the lazy loop marks as discarded exactly the unaffordable projects among those
    it looks at before its `break` (`dropped_eq_filter`), it looks at a prefix of the visiting order
    (`reached_prefix`) and at everything when the round ties nothing (`reached_all`, through the
    loop invariant `NoBreak`); a round that ends without a price found none for any affordable
    project (`foldl_no_price`);
  * every recorded `Details` entry is read off a lazy state (`traceL_succ`, `traceL_details`).
-/
import PabuModel.MESAnalytics
import PabuProofs.Lemmas.MESLazy
namespace Pabu
namespace MESAnalytics
open MES MESLazy

/-! ### sums over voter entries and recorded lists -/

theorem zsum_map (f : Nat → Rat → Rat) (g : Nat → Rat) : ∀ l : List Nat,
    zsum f l (l.map g) = sumOver l (fun i => f i (g i))
  | [] => rfl
  | i :: is => by simp only [List.map_cons, zsum, sumOver, zsum_map f g is]

theorem zipWith_sub_map (g h : Nat → Rat) : ∀ l : List Nat,
    List.zipWith (fun x y => x - y) (l.map g) (l.map h) = l.map (fun i => g i - h i)
  | [] => rfl
  | i :: is => by simp only [List.map_cons, List.zipWith_cons_cons, zipWith_sub_map g h is]

theorem supBudget_budgets (V : VCtx) (p : Pid) (b : Nat → Rat) :
    supBudget V p (budgets V b) = sumOver (supporters V p) (fun i => (V.m i : Rat) * b i) := by
  rw [supBudget, budgets, zsum_map, sumOver_supporters]

theorem shares_iff (V : VCtx) (p q : Pid) :
    shares V p q = true ↔ ∃ i ∈ V.vs, 0 < V.u i p ∧ 0 < V.u i q := by
  unfold shares
  simp only [List.any_eq_true, Bool.and_eq_true, decide_eq_true_eq]

/-! ### project loss along a faithful record -/

/-- what the record of `p` lists as spent on the purchases of the iterations `pre` -/
def lostSum (V : VCtx) (p : Pid) (pre : List Iteration) : Rat :=
  sumOver (pre.filterMap (lostEntry V p)) Prod.snd

theorem lostSum_append (V : VCtx) (p : Pid) (l l' : List Iteration) :
    lostSum V p (l ++ l') = lostSum V p l + lostSum V p l' := by
  unfold lostSum
  rw [List.filterMap_append, sumOver_append]

theorem lostTo_purchase (V : VCtx) (p t : Pid) (r : Rat) (b : Nat → Rat) (rho : Option Rat) :
    lostTo V p t ⟨budgets V b, some t, rho, budgets V (fun i => b i - pay V b t r i)⟩ =
      sumOver (supporters V p) (fun i => (V.m i : Rat) * pay V b t r i) := by
  rw [lostTo, spent, budgets, budgets, zipWith_sub_map, zsum_map, sumOver_supporters]
  refine sumOver_congr fun i _ => ?_
  rw [sub_sub_cancel]
  by_cases hp : 0 < V.u i p
  · by_cases ht : 0 < V.u i t
    · rw [if_pos ⟨hp, ht⟩, if_pos hp]
    · rw [if_neg fun h => ht h.2, if_pos hp, pay_nonsupporter V b t r i ht, mul_zero]
  · rw [if_neg fun h => hp h.1, if_neg hp]

theorem lostSum_purchase (V : VCtx) (p t : Pid) (r : Rat) (b : Nat → Rat) :
    lostSum V p [⟨budgets V b, some t, some r, budgets V (fun i => b i - pay V b t r i)⟩] =
      sumOver (supporters V p) (fun i => (V.m i : Rat) * pay V b t r i) := by
  by_cases hs : shares V p t = true
  · simp only [lostSum, List.filterMap_cons, List.filterMap_nil, lostEntry, hs, if_true, sumOver_cons,
      sumOver_nil, add_zero]
    exact lostTo_purchase V p t r b _
  · -- no common supporter: nothing is listed, and no supporter of `p` paid
    simp only [lostSum, List.filterMap_cons, List.filterMap_nil, lostEntry, hs]
    refine (sumOver_eq_zero fun i hi => ?_).symm
    obtain ⟨hi, hp⟩ := mem_supporters.mp hi
    rw [pay_nonsupporter V b t r i fun ht => hs ((shares_iff V p t).mpr ⟨i, hi, hp, ht⟩), mul_zero]

theorem conserve_prefix {V : VCtx} {cost : Pid → Rat} {s s' : State} {L : List Iteration}
    (h : Recorded V cost s L s') (p : Pid) :
    ∀ pre it post, L = pre ++ it :: post →
      supBudget V p it.before + lostSum V p pre =
        sumOver (supporters V p) (fun i => (V.m i : Rat) * s.b i) := by
  induction h with
  | stop s =>
    intro pre it post hL
    rcases List.cons_eq_append_iff.mp hL with ⟨rfl, h⟩ | ⟨pre', rfl, h⟩
    · cases h
      exact (add_zero _).trans (supBudget_budgets V p s.b)
    · exact absurd h.symm (List.append_ne_nil_of_right_ne_nil _ (List.cons_ne_nil _ _))
  | step s t r rest s' ht hr hb hrec ih =>
    intro pre it post hL
    rcases List.cons_eq_append_iff.mp hL with ⟨rfl, h⟩ | ⟨pre', rfl, h⟩
    · cases h
      exact (add_zero _).trans (supBudget_budgets V p s.b)
    · -- the purchase of `t` moved what the supporters of `p` paid for it from held to lost
      have hb' : (buy V cost s t).b = fun i => s.b i - pay V s.b t r i := by rw [buy_some hr]
      rw [← List.singleton_append, lostSum_append, hb', lostSum_purchase, add_left_comm, ih pre' it post h, hb',
        ← sumOver_add]
      exact sumOver_congr fun i _ => by ring

theorem selected_has_next {V : VCtx} {cost : Pid → Rat} {s s' : State} {L : List Iteration}
    (h : Recorded V cost s L s') {pre : List Iteration} {it : Iteration} {post : List Iteration}
    {t : Pid} (hL : L = pre ++ it :: post) (hsel : it.selected = some t) :
    ∃ it' post', post = it' :: post' := by
  cases post with
  | cons it' post' => exact ⟨it', post', rfl⟩
  | nil =>
    have hlast := h.last
    rw [hL, List.getLast?_concat] at hlast
    rw [Option.some.inj hlast] at hsel
    cases hsel

theorem conserve_after {V : VCtx} {cost : Pid → Rat} {s s' : State} {L : List Iteration}
    (h : Recorded V cost s L s') (p : Pid) {pre : List Iteration} {it : Iteration}
    {post : List Iteration} {t : Pid} (hL : L = pre ++ it :: post) (hsel : it.selected = some t) :
    supBudget V p it.after + lostSum V p (pre ++ [it]) =
      sumOver (supporters V p) (fun i => (V.m i : Rat) * s.b i) := by
  obtain ⟨it', post', rfl⟩ := selected_has_next h hL hsel
  have hch := h.isChain
  rw [hL] at hch
  rw [(List.isChain_append_cons_cons.mp hch).2.1]
  exact conserve_prefix h p (pre ++ [it]) it' post' (by rw [hL, List.append_assoc]; rfl)

theorem selecting_split {V : VCtx} {cost : Pid → Rat} {s s' : State} {L : List Iteration}
    (h : Recorded V cost s L s') : L = selecting L ++ [⟨budgets V s'.b, none, none, []⟩] := by
  induction h with
  | stop s => rfl
  | step s t r rest s' ht hr hb hrec ih =>
    rw [selecting, List.filter_cons_of_pos rfl, List.cons_append]
    exact congrArg _ ih

theorem mem_lossGo (V : VCtx) (L' : List (Iteration × List Pid × List Pid)) : ∀ (done : List Iteration)
    (x : Loss), x ∈ lossGo V done L' →
    ∃ pre e post, L' = pre ++ e :: post ∧
      ((∃ t, e.1.selected = some t ∧ x = mkLoss V t e.1.before (done ++ pre.map Prod.fst)) ∨
       (∃ t q, e.1.selected = some t ∧
          x = mkLoss V q e.1.after (done ++ pre.map Prod.fst ++ [e.1]))) := by
  induction L' with
  | nil => intro _ x hx; simp [lossGo] at hx
  | cons e rest ih =>
    intro done x hx
    rw [lossGo] at hx
    rcases List.mem_append.mp hx with h1 | h1
    · refine ⟨[], e, rest, rfl, ?_⟩
      unfold lossOf at h1
      cases hsel : e.1.selected with
      | none => rw [hsel] at h1; simp at h1
      | some t =>
        rw [hsel] at h1
        simp only [List.mem_cons, List.mem_map] at h1
        rcases h1 with h1 | ⟨q, _, h1⟩
        · left; exact ⟨t, rfl, by simpa using h1⟩
        · right; exact ⟨t, q, rfl, by simpa using h1.symm⟩
    · obtain ⟨pre, e', post, hsplit, hcase⟩ := ih (done ++ [e.1]) x h1
      refine ⟨e :: pre, e', post, by rw [hsplit]; rfl, ?_⟩
      rw [List.map_cons, List.append_cons]
      exact hcase

theorem mem_budgetLost (V : VCtx) (p : Pid) (money : List Rat) (earlier : List Iteration) (q : Pid)
    (x : Rat) : (q, x) ∈ (mkLoss V p money earlier).budgetLost ↔
      ∃ it ∈ earlier, it.selected = some q ∧ (∃ i ∈ V.vs, 0 < V.u i p ∧ 0 < V.u i q) ∧
        x = lostTo V p q it := by
  have hentry : ∀ it, lostEntry V p it = some (q, x) ↔
      it.selected = some q ∧ shares V p q = true ∧ x = lostTo V p q it := by
    intro it
    unfold lostEntry
    cases it.selected with
    | none => simp
    | some q' =>
      by_cases hs : shares V p q' = true
      · simp only [hs, if_true, Option.some.injEq, Prod.mk.injEq]
        constructor
        · rintro ⟨rfl, rfl⟩; exact ⟨rfl, hs, rfl⟩
        · rintro ⟨rfl, _, rfl⟩; exact ⟨rfl, rfl⟩
      · simp only [hs, Bool.false_eq_true, if_false, Option.some.injEq, false_iff, reduceCtorEq]
        rintro ⟨rfl, h, _⟩; exact hs h
  simp only [mkLoss, List.mem_filterMap, hentry, shares_iff]

/-! ### effective support: the running maximum -/

theorem effFold_ge_acc (V : VCtx) (cost : Pid → Rat) (p : Pid) : ∀ (L : List Iteration) (acc : Int),
    acc ≤ effFold V cost p acc L
  | [], acc => le_refl _
  | it :: rest, acc => by
    rw [effFold]
    exact le_trans (le_max_left _ _) (effFold_ge_acc V cost p rest _)

theorem effFold_append (V : VCtx) (cost : Pid → Rat) (p : Pid) : ∀ (L L' : List Iteration) (acc : Int),
    effFold V cost p acc (L ++ L') = effFold V cost p (effFold V cost p acc L) L'
  | [], _, _ => rfl
  | it :: rest, L', acc => by
    rw [List.cons_append, effFold, effFold, effFold_append V cost p rest L']

theorem effFold_ge_iter (V : VCtx) (cost : Pid → Rat) (p : Pid) : ∀ (L : List Iteration) (acc : Int),
    ∀ it ∈ L, effOfIter V cost p it ≤ effFold V cost p acc L
  | [], _, _, h => absurd h List.not_mem_nil
  | it0 :: rest, acc, it, h => by
    rw [effFold]
    rcases List.mem_cons.mp h with rfl | h
    · exact le_trans (le_max_right _ _) (effFold_ge_acc V cost p rest _)
    · exact effFold_ge_iter V cost p rest _ it h

theorem effFold_attained (V : VCtx) (cost : Pid → Rat) (p : Pid) : ∀ (L : List Iteration) (acc : Int),
    effFold V cost p acc L = acc ∨ ∃ it ∈ L, effFold V cost p acc L = effOfIter V cost p it
  | [], _ => Or.inl rfl
  | it0 :: rest, acc => by
    rw [effFold]
    rcases effFold_attained V cost p rest (max acc (effOfIter V cost p it0)) with h | ⟨it, hit, h⟩
    · rw [h]
      exact (max_choice acc (effOfIter V cost p it0)).imp_right fun hm => ⟨it0, List.mem_cons_self, hm⟩
    · exact Or.inr ⟨it, List.mem_cons_of_mem _ hit, h⟩

theorem effectiveSupport_ok {V : VCtx} {I : Inst} {init : List Pid}
    {order : List Pid → Except Err (List Pid)} {b0 : Rat} {p : Pid} {picked : Bool} {e : Int}
    (h : effectiveSupport V I init order b0 p picked = .ok e) :
    ∃ e0, effRaw V I init order b0 p = .ok e0 ∧ e = atLeast100 picked e0 := by
  unfold effectiveSupport at h
  split at h
  · cases h
  · exact ⟨_, ‹_›, (Except.ok.inj h).symm⟩

theorem le_atLeast100 (picked : Bool) (e : Int) : e ≤ atLeast100 picked e := by
  unfold atLeast100
  split
  exacts [le_max_left _ _, le_refl _]

/-! ### project details: what the lazy loop discards, how far it looks, when it finds no price -/

variable {V : VCtx} {cost : Pid → Rat} {b : Nat → Rat}

theorem stepLog_stopped (bin : Bool) (x : Log) (p : Pid) (h : x.acc.stopped = true) :
    stepLog V cost bin b x p = x := if_pos h

theorem stepLog_go (bin : Bool) (x : Log) (p : Pid) (h : ¬ x.acc.stopped = true) :
    stepLog V cost bin b x p =
      ⟨step V cost bin b x.acc p, x.seen ++ [p], pricedStep V cost bin b x.acc p x.priced⟩ :=
  if_neg h

theorem foldl_stepLog_stopped (bin : Bool) (l : List Pid) (x : Log) (h : x.acc.stopped = true) :
    l.foldl (stepLog V cost bin b) x = x :=
  foldl_invariant _ (· = x) (fun y p hy => by rw [hy]; exact stepLog_stopped bin x p h) l x rfl

theorem foldl_stepLog_acc (bin : Bool) : ∀ (l : List Pid) (x : Log),
    (l.foldl (stepLog V cost bin b) x).acc = l.foldl (step V cost bin b) x.acc
  | [], _ => rfl
  | p :: l, x => by
    rw [List.foldl_cons, List.foldl_cons, foldl_stepLog_acc bin l]
    by_cases h : x.acc.stopped = true
    · rw [stepLog_stopped bin x p h, step_stopped bin x.acc p h]
    · rw [stepLog_go bin x p h]

theorem scanLog_acc (V : VCtx) (cost : Pid → Rat) (bin : Bool) (s : LState) :
    (scanLog V cost bin s).acc = scan V cost bin s := foldl_stepLog_acc bin _ _

theorem step_dropped (bin : Bool) (a : Acc) (p : Pid) (h : ¬ a.stopped = true) :
    (step V cost bin b a p).dropped =
      if budSum (sups V b p) < cost p then a.dropped ++ [p] else a.dropped := by
  refine step_cases bin (fun a' => a'.dropped = if budSum (sups V b p) < cost p then a.dropped ++ [p]
    else a.dropped) a p (fun hs => absurd hs h) (fun _ hu => (if_pos hu).symm)
    (fun _ hu _ => (if_neg hu).symm) (fun _ hu _ _ => (if_neg hu).symm)
    fun _ hu _ r _ => (record_dropped a p r).trans (if_neg hu).symm

theorem dropped_eq_filter (V : VCtx) (cost : Pid → Rat) (bin : Bool) (s : LState) :
    (scan V cost bin s).dropped =
      (reached V cost bin s).filter (fun p => decide (budSum (sups V s.b p) < cost p)) := by
  rw [← scanLog_acc]
  refine foldl_invariant _ (fun x : Log => x.acc.dropped =
    x.seen.filter (fun p => decide (budSum (sups V s.b p) < cost p))) (fun x p h => ?_)
    (visit s) ⟨acc0 s, [], []⟩ rfl
  by_cases hs : x.acc.stopped = true
  · rw [stepLog_stopped bin x p hs]; exact h
  · rw [stepLog_go bin x p hs]
    simp only []
    rw [step_dropped bin x.acc p hs, List.filter_append, h]
    by_cases hu : budSum (sups V s.b p) < cost p
    · rw [if_pos hu, List.filter_cons_of_pos (by simpa using hu), List.filter_nil]
    · rw [if_neg hu, List.filter_cons_of_neg (by simpa using hu), List.filter_nil, List.append_nil]

theorem foldl_seen_prefix (bin : Bool) (l : List Pid) : ∀ (x : Log),
    ∃ k, (l.foldl (stepLog V cost bin b) x).seen = x.seen ++ l.take k := by
  induction l with
  | nil => exact fun x => ⟨0, by simp⟩
  | cons p l ih =>
    intro x
    rw [List.foldl_cons]
    by_cases hs : x.acc.stopped = true
    · rw [stepLog_stopped bin x p hs, foldl_stepLog_stopped bin l x hs]
      exact ⟨0, by simp⟩
    · obtain ⟨k, hk⟩ := ih (stepLog V cost bin b x p)
      rw [hk, stepLog_go bin x p hs]
      exact ⟨k + 1, by simp⟩

theorem reached_prefix (V : VCtx) (cost : Pid → Rat) (bin : Bool) (s : LState) :
    reached V cost bin s <+: visit s := by
  obtain ⟨k, hk⟩ := foldl_seen_prefix (V := V) (cost := cost) (b := s.b) bin (visit s) ⟨acc0 s, [], []⟩
  rw [reached, scanLog, hk]
  exact List.take_prefix k (visit s)

theorem foldl_seen_all (bin : Bool) (l : List Pid) : ∀ (x : Log),
    ¬ (l.foldl (stepLog V cost bin b) x).acc.stopped = true →
    (l.foldl (stepLog V cost bin b) x).seen = x.seen ++ l := by
  induction l with
  | nil => exact fun x _ => (List.append_nil _).symm
  | cons p l ih =>
    intro x h
    by_cases hs : x.acc.stopped = true
    · rw [foldl_stepLog_stopped bin (p :: l) x hs] at h
      exact absurd hs h
    · rw [List.foldl_cons] at h ⊢
      rw [ih _ h, stepLog_go bin x p hs]
      simp

/-- loop invariant: the loop has not stopped while no price was found, and once a price was found
    a project is tied -/
def NoBreak (a : Acc) : Prop := (a.best = none → ¬ a.stopped = true) ∧ (a.best ≠ none → a.tied ≠ [])

theorem record_noBreak (a : Acc) (p : Pid) (r : Rat) (h : NoBreak a) : NoBreak (record a p r) := by
  unfold record
  split_ifs with h1 h2
  · exact ⟨fun hb => absurd hb (Option.some_ne_none r), fun _ => List.cons_ne_nil _ _⟩
  · exact ⟨fun hb => absurd (h2.symm.trans hb) (Option.some_ne_none r),
      fun _ => List.append_ne_nil_of_right_ne_nil _ (List.cons_ne_nil _ _)⟩
  · exact h

theorem step_noBreak (bin : Bool) (a : Acc) (p : Pid) (h : NoBreak a) :
    NoBreak (step V cost bin b a p) := by
  refine step_cases bin NoBreak a p (fun _ => h) (fun _ _ => h) (fun _ _ hbb => ?_) (fun _ _ _ _ => h)
    fun _ _ _ r _ => record_noBreak a p r h
  obtain ⟨bb, hbb, _⟩ := hbb
  exact ⟨fun hb => absurd (hbb.symm.trans hb) (Option.some_ne_none bb), h.2⟩

theorem acc0_noBreak (s : LState) : NoBreak (acc0 s) :=
  ⟨fun _ => Bool.false_ne_true, fun hb => absurd rfl hb⟩

theorem scan_noBreak (V : VCtx) (cost : Pid → Rat) (bin : Bool) (s : LState) :
    NoBreak (scan V cost bin s) :=
  foldl_invariant _ NoBreak (step_noBreak bin) (visit s) (acc0 s) (acc0_noBreak s)

theorem reached_all (V : VCtx) (cost : Pid → Rat) (bin : Bool) (s : LState)
    (h : tiedLazy V cost bin s = []) : reached V cost bin s = visit s := by
  have hnb := scan_noBreak V cost bin s
  have hns : ¬ (scan V cost bin s).stopped = true := hnb.1 (by_contra fun hb => hnb.2 hb h)
  exact foldl_seen_all (V := V) (cost := cost) (b := s.b) bin (visit s) ⟨acc0 s, [], []⟩
    (scanLog_acc V cost bin s ▸ hns)

theorem step_best_some (bin : Bool) (a : Acc) (p : Pid) (h : a.best ≠ none) :
    (step V cost bin b a p).best ≠ none := by
  refine step_cases bin (fun a' => a'.best ≠ none) a p (fun _ => h) (fun _ _ => h) (fun _ _ _ => h)
    (fun _ _ _ _ => h) fun _ _ _ r _ => ?_
  unfold record
  split_ifs
  exacts [Option.some_ne_none r, h, h]

theorem foldl_best_some (bin : Bool) (l : List Pid) (a : Acc) (h : a.best ≠ none) :
    (l.foldl (step V cost bin b) a).best ≠ none :=
  foldl_invariant _ (·.best ≠ none) (step_best_some bin) l a h

theorem step_first_price (bin : Bool) {a : Acc} {p : Pid} {r : Rat} (hb : a.best = none)
    (hs : ¬ a.stopped = true) (haff : ¬ budSum (sups V b p) < cost p)
    (hr : price V cost bin b p = some r) : (step V cost bin b a p).best = some r := by
  rw [step, if_neg hs, if_neg haff, hb,
    if_neg (show ¬ exceeds (a.aff p) none = true from Bool.false_ne_true), hr]
  exact congrArg Acc.best (if_pos (hb ▸ rfl) : record a p r = _)

theorem foldl_no_price (bin : Bool) (l : List Pid) : ∀ (a : Acc), NoBreak a →
    (l.foldl (step V cost bin b) a).best = none →
    ∀ q ∈ l, ¬ budSum (sups V b q) < cost q → price V cost bin b q = none := by
  induction l with
  | nil => exact fun _ _ _ _ hq _ => absurd hq List.not_mem_nil
  | cons p l ih =>
    intro a hnb hfin q hq haff
    rw [List.foldl_cons] at hfin
    rcases List.mem_cons.mp hq with rfl | hq
    · by_contra hpr
      obtain ⟨r, hr⟩ := Option.ne_none_iff_exists'.mp hpr
      have hbn : a.best = none :=
        by_contra fun hb => foldl_best_some bin l _ (step_best_some bin a q hb) hfin
      refine foldl_best_some bin l _ ?_ hfin
      rw [step_first_price bin hbn (hnb.1 hbn) haff hr]
      exact Option.some_ne_none r
    · exact ih _ (step_noBreak bin a p hnb) hfin q hq haff

/-! ### the recorded details come from lazy states -/

theorem traceL_succ (V : VCtx) (cost : Pid → Rat) (order : List Pid → Except Err (List Pid))
    (bin : Bool) (n : Nat) (s : LState) : traceL V cost order bin (n + 1) s =
    if tiedLazy V cost bin s = [] then .ok [detailsOf V cost bin s none []]
    else match orderIfTie order (tiedLazy V cost bin s) with
      | .error e => .error e
      | .ok [] => .ok [detailsOf V cost bin s none []]
      | .ok (t :: _) =>
        match traceL V cost order bin n (buyLazy V cost bin s t) with
        | .error e => .error e
        | .ok rest =>
          .ok (detailsOf V cost bin s (some t) (budgets V (buyLazy V cost bin s t).b) :: rest) := by
  rw [traceL]; rfl

theorem traceL_details {order : List Pid → Except Err (List Pid)}
    (bin : Bool) : ∀ (n : Nat) (s : LState) (D : List Details),
    traceL V cost order bin n s = .ok D →
    ∀ d ∈ D, ∃ s' : LState, d.pool = s'.pool ∧ d.discarded = (scan V cost bin s').dropped ∧
      d.before = budgets V s'.b ∧ d.rho = (scan V cost bin s').best := by
  intro n
  induction n with
  | zero =>
    intro s D h d hd
    cases h
    exact ⟨s, by rw [List.mem_singleton.mp hd]; exact ⟨rfl, rfl, rfl, rfl⟩⟩
  | succ n ih =>
    intro s D h d hd
    have hstop : d ∈ [detailsOf V cost bin s none []] → ∃ s' : LState, d.pool = s'.pool ∧
        d.discarded = (scan V cost bin s').dropped ∧ d.before = budgets V s'.b ∧
        d.rho = (scan V cost bin s').best :=
      fun hd => ⟨s, by rw [List.mem_singleton.mp hd]; exact ⟨rfl, rfl, rfl, rfl⟩⟩
    rw [traceL_succ] at h
    split at h
    · cases h; exact hstop hd
    · split at h
      · cases h
      · cases h; exact hstop hd
      · split at h
        · cases h
        · rename_i hr
          cases h
          rcases List.mem_cons.mp hd with rfl | hd
          · exact ⟨s, rfl, rfl, rfl, rfl⟩
          · exact ih _ _ hr d hd

end MESAnalytics
end Pabu
