/-
  Lemmas about the program `priceable()` builds (PabuModel.PriceMIP), stated so that they serve the relaxed programs of
  PabuModel.PriceMIPRelax too.  A relaxation replaces the cost on the right-hand side of the S5 rows and touches no other row of
  the plain program, so that side is a parameter `rc` here and the plain program is the case `rc = cost`:
   * the executable test of everything but S5 (`coreB`) holds exactly when the point satisfies those rows read as
     mathematics (`CoreF`, `coreB_iff`); with the S5 rows this is `FeasibleR`, for the plain program `Feasible` (`sat_iff`);
   * `FeasibleR` ⇒ the point read as a price system is `Price.ExactRelaxed` (`feasibleR_exactRelaxed`; plain: `feasible_exact`);
   * `Price.ExactRelaxed` + the bounds the big-M constants need ⇒ `FeasibleR` at the point that encodes the price system
     (`exactRelaxed_feasibleR`; plain: `exact_feasible`); the bounds can always be met when no selected project has more than
     10 supporters (`capB`: lower the voter budget to the budget limit).
-/
import PabuModel.PriceMIPRelax
import PabuProofs.Lemmas.PriceRelax

/-! ### general facts: sums, integers among the rationals, moving terms across a comparison, a Boolean `if` -/

namespace Pabu

theorem sumOver_isInt {α : Type} (l : List α) (f : α → Rat) (h : ∀ a ∈ l, ∃ k : Int, f a = k) : ∃ k : Int, sumOver l f = k := by
  induction l with
  | nil => exact ⟨0, by rw [sumOver_nil, Int.cast_zero]⟩
  | cons a l ih =>
    obtain ⟨k1, h1⟩ := h a (by simp)
    obtain ⟨k2, h2⟩ := ih (fun x hx => h x (by simp [hx]))
    exact ⟨k1 + k2, by rw [sumOver_cons, h1, h2, Int.cast_add]⟩

theorem sumOver_zipIdx_fst {α : Type} (l : List α) (k : Nat) (g : α → Rat) :
    sumOver (l.zipIdx k) (fun ai => g ai.1) = sumOver l g := by
  rw [← sumOver_map Prod.fst, List.zipIdx_map_fst]

theorem sumOver_zipIdx_single {α : Type} (l : List α) (k i0 : Nat) (f : α × Nat → Rat) (M : Rat) (hM : 0 ≤ M)
    (H : ∀ ai ∈ l.zipIdx k, ai.2 ≠ i0 → f ai = 0) (hf : ∀ ai ∈ l.zipIdx k, f ai ≤ M) : sumOver (l.zipIdx k) f ≤ M := by
  induction l generalizing k with
  | nil => exact hM
  | cons a l ih =>
    rw [List.zipIdx_cons] at H hf ⊢
    rw [sumOver_cons]
    by_cases hk : k = i0
    · have hrest : sumOver (l.zipIdx (k + 1)) f = 0 := by
        apply sumOver_eq_zero
        intro ai hai
        apply H ai (List.mem_cons_of_mem _ hai)
        have := List.le_snd_of_mem_zipIdx hai
        omega
      rw [hrest, add_zero]
      exact hf (a, k) (by simp)
    · rw [H (a, k) (by simp) hk, zero_add]
      exact ih (k + 1) (fun ai hai => H ai (List.mem_cons_of_mem _ hai)) (fun ai hai => hf ai (List.mem_cons_of_mem _ hai))

theorem sumOver_single {α : Type} (l : List α) (hnd : l.Nodup) (f : α → Rat) (c : α) (hc : c ∈ l)
    (H : ∀ c' ∈ l, c' ≠ c → f c' = 0) : sumOver l f = f c := by
  induction l with
  | nil => cases hc
  | cons a l ih =>
    rw [sumOver_cons]
    have hnd' := List.nodup_cons.mp hnd
    rcases List.mem_cons.mp hc with rfl | hcl
    · rw [sumOver_eq_zero fun x hx => H x (List.mem_cons_of_mem _ hx) (fun hxc => hnd'.1 (hxc ▸ hx)), add_zero]
    · rw [H a (by simp) (fun hac => hnd'.1 (hac ▸ hcl)), ih hnd'.2 hcl (fun c' hc' => H c' (List.mem_cons_of_mem _ hc')), zero_add]

theorem add_one_le_of_int_lt {a b : Rat} (ha : ∃ k : Int, a = k) (hb : ∃ k : Int, b = k) (h : a < b) : a + 1 ≤ b := by
  obtain ⟨i, rfl⟩ := ha
  obtain ⟨j, rfl⟩ := hb
  have : i + 1 ≤ j := Int.add_one_le_iff.mpr (Int.cast_lt.mp h)
  rw [← Int.cast_one, ← Int.cast_add]
  exact Int.cast_le.mpr this

theorem le_iff_le_of_sub_eq {a b a' b' : Rat} (h : b - a = b' - a') : a ≤ b ↔ a' ≤ b' := by
  rw [← sub_nonneg, h, sub_nonneg]

theorem eq_iff_eq_of_sub_eq {a b a' b' : Rat} (h : b - a = b' - a') : a = b ↔ a' = b' := by
  rw [← sub_eq_zero, ← sub_eq_zero (a := a'), ← neg_sub, h, neg_sub]

theorem ite_eq_true_iff_imp (s a b : Bool) :
    (if s then a else b) = true ↔ (s = false → b = true) ∧ (s = true → a = true) := by
  cases s <;> simp

end Pabu

namespace Pabu.PriceMIP
open Price

theorem so_all_zero {α : Type} (l : List α) (f : α → Rat) (h : ∀ a ∈ l, 0 ≤ f a) (hs : sumOver l f = 0) : ∀ a ∈ l, f a = 0 :=
  fun a ha => le_antisymm (hs ▸ le_sumOver_of_mem h ha) (h a ha)

/-! ### facts about the validator input that the encoding needs -/

theorem maxPayment_le (X : Input) (v : PVoter) (m : Rat) (h0 : 0 ≤ m) (h : ∀ c ∈ X.C, v.pay c ≤ m) : maxPayment X v ≤ m := by
  unfold maxPayment
  cases hm : maxRat (X.C.map v.pay) with
  | none => exact h0
  | some y =>
    obtain ⟨c, hc, rfl⟩ := List.mem_map.mp (maxRat_some hm).1
    exact h c hc

theorem pay_le_maxPayment (X : Input) (v : PVoter) (c : Pid) (hc : c ∈ X.C) : v.pay c ≤ maxPayment X v := by
  unfold maxPayment
  have hmem : v.pay c ∈ X.C.map v.pay := List.mem_map_of_mem hc
  cases hm : maxRat (X.C.map v.pay) with
  | none => rw [maxRat_eq_none.mp hm] at hmem; cases hmem
  | some y => exact (maxRat_some hm).2 _ hmem

theorem stableVal_eq_max (X : Input) (v : PVoter) : stableVal X v = max (leftover X v) (maxPayment X v) :=
  (max_def _ _).symm

theorem leftover_le_stableVal (X : Input) (v : PVoter) : leftover X v ≤ stableVal X v :=
  stableVal_eq_max X v ▸ le_max_left _ _

theorem maxPayment_le_stableVal (X : Input) (v : PVoter) : maxPayment X v ≤ stableVal X v :=
  stableVal_eq_max X v ▸ le_max_right _ _

theorem stableVal_le (X : Input) (v : PVoter) (m : Rat) (h1 : leftover X v ≤ m) (h2 : maxPayment X v ≤ m) : stableVal X v ≤ m :=
  stableVal_eq_max X v ▸ max_le h1 h2

theorem stableOf_eq (X : Input) (c : Pid) : stableOf X c = sumOver (X.N.filter (fun v => v.app c)) (stableVal X) := rfl

/-- `W` is listed within the instance, in the instance's order: then `total_cost(W)` of the validator and
    `Σ_{c ∈ C} cost(c)·x_c` of the program are the same number -/
def WithinInstance (X : Input) : Prop := X.W = X.C.filter (fun c => X.W.contains c)

theorem total_eq_ite (X : Input) (hW : WithinInstance X) :
    X.total = sumOver X.C (fun c => if X.W.contains c = true then X.cost c else 0) := by
  unfold Input.total costOf
  rw [hW, sumOver_filter_ite, ← hW]

theorem mem_W_C (X : Input) (hW : WithinInstance X) (c : Pid) (hc : c ∈ X.W) : c ∈ X.C := by
  rw [hW] at hc
  exact (List.mem_filter.mp hc).1

theorem mem_NW_of (X : Input) (c : Pid) (hc : c ∈ X.C) (h : ¬ X.W.contains c = true) : c ∈ X.NW :=
  List.mem_filter.mpr ⟨hc, by simpa using h⟩

theorem total_nonneg (X : Input) (hW : WithinInstance X) (hcost : ∀ c ∈ X.C, 0 ≤ X.cost c) : 0 ≤ X.total :=
  sumOver_nonneg _ _ fun c hc => hcost c (mem_W_C X hW c hc)

theorem pay_le_paidFor (X : Input) (c : Pid) (h : ∀ w ∈ X.N, 0 ≤ w.pay c) {v : PVoter} (hv : v ∈ X.N) : v.pay c ≤ paidFor X c :=
  le_sumOver_of_mem (l := X.N) (f := fun v => v.pay c) h hv

theorem spent_le_total (X : Input) (rc : Pid → Rat) (s e : Bool) (Ex : ExactRelaxed X rc s e) (hW : WithinInstance X)
    (v : PVoter) (hv : v ∈ X.N) : spent X v ≤ X.total := by
  rw [total_eq_ite X hW]
  apply sumOver_mono
  intro c hc
  have hle := pay_le_paidFor X c (fun w hw => Ex.nonneg w hw c hc) hv
  by_cases h : X.W.contains c = true
  · rw [if_pos h, ← Ex.selected c (by simpa using h)]
    exact hle
  · rw [if_neg h, ← Ex.unselected c (mem_NW_of X c hc h)]
    exact hle

theorem exact_b_nonneg (X : Input) (s e : Bool) (Ex : Exact X s e) (hN : X.N ≠ []) : 0 ≤ X.b := by
  obtain ⟨v, hv⟩ := List.exists_mem_of_ne_nil X.N hN
  exact le_trans (sumOver_nonneg _ _ fun c hc => Ex.nonneg v hv c hc) (Ex.within v hv)

/-! ### the program's sums and rows evaluated at a point -/

def tot (E : Elec) (pt : Point) : Rat := sumOver E.C (fun c => E.cost c * pt.x c)

def spentP (E : Elec) (pt : Point) (i : Nat) : Rat := sumOver E.C (pt.p i)

def paidP (E : Elec) (pt : Point) (c : Pid) : Rat := sumOver (voters E) (fun ai => pt.p ai.2 c)

theorem mem_voters_of_supp (E : Elec) (c : Pid) (ai : (Pid → Bool) × Nat) (h : ai ∈ supp E c) : ai ∈ voters E :=
  (List.mem_filter.mp h).1

theorem ev_nil (pt : Point) : evalLin pt [] = 0 := rfl

theorem ev_b (pt : Point) (k : Rat) (ts : List (Rat × Var)) : evalLin pt ((k, Var.b) :: ts) = k * pt.b + evalLin pt ts := rfl

theorem ev_p (pt : Point) (k : Rat) (i : Nat) (c : Pid) (ts : List (Rat × Var)) :
    evalLin pt ((k, Var.p i c) :: ts) = k * pt.p i c + evalLin pt ts := rfl

theorem ev_x (pt : Point) (k : Rat) (c : Pid) (ts : List (Rat × Var)) :
    evalLin pt ((k, Var.x c) :: ts) = k * pt.x c + evalLin pt ts := rfl

theorem ev_r (pt : Point) (k : Rat) (i : Nat) (ts : List (Rat × Var)) :
    evalLin pt ((k, Var.r i) :: ts) = k * pt.r i + evalLin pt ts := rfl

theorem ev_m (pt : Point) (k : Rat) (i : Nat) (ts : List (Rat × Var)) :
    evalLin pt ((k, Var.m i) :: ts) = k * pt.m i + evalLin pt ts := rfl

theorem ev_append (pt : Point) (a b : List (Rat × Var)) : evalLin pt (a ++ b) = evalLin pt a + evalLin pt b :=
  sumOver_append a b _

theorem ev_map {α : Type} (pt : Point) (l : List α) (g : α → Rat × Var) :
    evalLin pt (l.map g) = sumOver l (fun a => (g a).1 * pt.val (g a).2) := sumOver_map g l _

theorem ev_costTotal (E : Elec) (pt : Point) : evalLin pt (costTotal E) = tot E pt := ev_map pt E.C _

theorem ev_spent (E : Elec) (pt : Point) (i : Nat) (k : Rat) : evalLin pt (spentTerms E i k) = k * spentP E pt i :=
  (ev_map pt E.C _).trans (sumOver_mul_left k E.C (pt.p i))

theorem ev_paid (E : Elec) (pt : Point) (c : Pid) (k : Rat) : evalLin pt (paidTerms E c k) = k * paidP E pt c :=
  (ev_map pt (voters E) _).trans (sumOver_mul_left k (voters E) (fun ai => pt.p ai.2 c))

theorem ev_suppR (E : Elec) (pt : Point) (c : Pid) :
    evalLin pt ((supp E c).map (fun ai => ((1 : Rat), Var.r ai.2))) = sumOver (supp E c) (fun ai => pt.r ai.2) :=
  (ev_map pt (supp E c) _).trans (sumOver_congr fun ai _ => one_mul (pt.r ai.2))

theorem ev_suppM (E : Elec) (pt : Point) (c : Pid) :
    evalLin pt ((supp E c).map (fun ai => ((1 : Rat), Var.m ai.2))) = sumOver (supp E c) (fun ai => pt.m ai.2) :=
  (ev_map pt (supp E c) _).trans (sumOver_congr fun ai _ => one_mul (pt.m ai.2))

theorem holds_le (pt : Point) (n : String) (ts : List (Rat × Var)) (r : Rat) :
    Constr.holds pt { name := n, terms := ts, sense := .le, rhs := r } = true ↔ evalLin pt ts ≤ r := decide_eq_true_iff

theorem holds_ge (pt : Point) (n : String) (ts : List (Rat × Var)) (r : Rat) :
    Constr.holds pt { name := n, terms := ts, sense := .ge, rhs := r } = true ↔ r ≤ evalLin pt ts := decide_eq_true_iff

theorem holds_eq (pt : Point) (n : String) (ts : List (Rat × Var)) (r : Rat) :
    Constr.holds pt { name := n, terms := ts, sense := .eq, rhs := r } = true ↔ evalLin pt ts = r := decide_eq_true_iff

theorem holds_eq_one (pt : Point) (n : String) (v : Var) (r : Rat) :
    Constr.holds pt { name := n, terms := [(1, v)], sense := .eq, rhs := r } = true ↔ pt.val v = r := by
  rw [holds_eq]
  show 1 * pt.val v + 0 = r ↔ _
  rw [one_mul, add_zero]

theorem holds_kFixB (pt : Point) (vb : Rat) : (kFixB vb).holds pt = true ↔ pt.b = vb := holds_eq_one pt _ _ _

theorem holds_kFixP (pt : Point) (pf : Nat → Pid → Rat) (i : Nat) (c : Pid) : (kFixP pf i c).holds pt = true ↔ pt.p i c = pf i c :=
  holds_eq_one pt _ _ _

theorem holds_kFixX (pt : Point) (W : List Pid) (c : Pid) :
    (kFixX W c).holds pt = true ↔ pt.x c = if W.contains c then 1 else 0 := holds_eq_one pt _ _ _

theorem holds_kC1 (pt : Point) (i : Nat) (c : Pid) : (kC1 i c).holds pt = true ↔ pt.p i c = 0 := holds_eq_one pt _ _ _

theorem holds_kC0a (E : Elec) (pt : Point) : (kC0a E).holds pt = true ↔ tot E pt ≤ E.budget := by
  rw [kC0a, holds_le, ev_costTotal]

theorem holds_kC0b (E : Elec) (pt : Point) (c : Pid) :
    (kC0b E c).holds pt = true ↔ E.budget + 1 ≤ tot E pt + E.cost c + INF E * pt.x c := by
  rw [kC0b, holds_ge, ev_append, ev_costTotal, ev_x, ev_nil]
  exact le_iff_le_of_sub_eq (by ring)

theorem holds_kNonEmpty (E : Elec) (pt : Point) : (kNonEmpty E).holds pt = true ↔ E.budget ≤ (nv E : Rat) * pt.b := by
  rw [kNonEmpty, holds_ge, ev_b, ev_nil, add_zero]

theorem holds_kC2 (E : Elec) (pt : Point) (i : Nat) : (kC2 E i).holds pt = true ↔ spentP E pt i ≤ pt.b := by
  rw [kC2, holds_le, ev_append, ev_spent, ev_b, ev_nil]
  exact le_iff_le_of_sub_eq (by ring)

theorem holds_kC3a (E : Elec) (pt : Point) (c : Pid) : (kC3a E c).holds pt = true ↔ paidP E pt c ≤ E.cost c := by
  rw [kC3a, holds_le, ev_paid, one_mul]

theorem holds_kC3b (E : Elec) (pt : Point) (c : Pid) :
    (kC3b E c).holds pt = true ↔ E.cost c + (pt.x c - 1) * INF E ≤ paidP E pt c := by
  rw [kC3b, holds_le, ev_append, ev_paid, ev_x, ev_nil]
  exact le_iff_le_of_sub_eq (by ring)

theorem holds_kC4a (pt : Point) (i : Nat) (c : Pid) : (kC4a i c).holds pt = true ↔ 0 ≤ pt.p i c := by
  rw [kC4a, holds_ge, ev_p, ev_nil, one_mul, add_zero]

theorem holds_kC4b (E : Elec) (pt : Point) (i : Nat) (c : Pid) : (kC4b E i c).holds pt = true ↔ pt.p i c ≤ pt.x c * INF E := by
  rw [kC4b, holds_le, ev_p, ev_x, ev_nil]
  exact le_iff_le_of_sub_eq (by ring)

theorem holds_kR (E : Elec) (pt : Point) (i : Nat) : (kR E i).holds pt = true ↔ pt.r i = pt.b - spentP E pt i := by
  rw [kR, holds_eq, ev_append, ev_spent, ev_r, ev_b, ev_nil]
  exact eq_iff_eq_of_sub_eq (by ring)

theorem holds_kC5 (E : Elec) (pt : Point) (c : Pid) :
    (kC5 E c).holds pt = true ↔ sumOver (supp E c) (fun ai => pt.r ai.2) ≤ E.cost c + pt.x c * INF E := by
  rw [kC5, holds_le, ev_append, ev_suppR, ev_x, ev_nil]
  exact le_iff_le_of_sub_eq (by ring)

theorem holds_kM1 (pt : Point) (i : Nat) (c : Pid) : (kM1 i c).holds pt = true ↔ pt.p i c ≤ pt.m i := by
  rw [kM1, holds_ge, ev_m, ev_p, ev_nil]
  exact le_iff_le_of_sub_eq (by ring)

theorem holds_kM2 (E : Elec) (pt : Point) (i : Nat) : (kM2 E i).holds pt = true ↔ pt.b - spentP E pt i ≤ pt.m i := by
  rw [kM2, holds_ge, ev_append, ev_spent, ev_m, ev_b, ev_nil]
  exact le_iff_le_of_sub_eq (by ring)

theorem holds_kS5 (E : Elec) (pt : Point) (c : Pid) :
    (kS5 E c).holds pt = true ↔ sumOver (supp E c) (fun ai => pt.m ai.2) ≤ E.cost c + pt.x c * INF E := by
  rw [kS5, holds_le, ev_append, ev_suppM, ev_x, ev_nil]
  exact le_iff_le_of_sub_eq (by ring)

theorem all_fixBs (cfg : Cfg) (pt : Point) :
    (fixBs cfg).all (Constr.holds pt) = true ↔ ∀ vb, cfg.fixB = some vb → pt.b = vb := by
  unfold fixBs
  cases cfg.fixB with
  | none => simp only [List.all_nil, reduceCtorEq, false_imp_iff, implies_true]
  | some vb => simp only [List.all_cons, List.all_nil, Bool.and_true, holds_kFixB, Option.some.injEq, forall_eq']

theorem all_fixPs (E : Elec) (cfg : Cfg) (pt : Point) :
    (fixPs E cfg).all (Constr.holds pt) = true ↔
      ∀ pf, cfg.fixP = some pf → ∀ ai ∈ voters E, ∀ c ∈ E.C, pt.p ai.2 c = pf ai.2 c := by
  unfold fixPs
  cases cfg.fixP with
  | none => simp only [List.all_nil, reduceCtorEq, false_imp_iff, implies_true]
  | some pf =>
    simp only [List.all_flatMap, List.all_map, List.all_eq_true, Function.comp_apply, holds_kFixP, Option.some.injEq,
      forall_eq']

theorem all_fixXs (E : Elec) (cfg : Cfg) (pt : Point) :
    (fixXs E cfg).all (Constr.holds pt) = true ↔
      ∀ W, cfg.given = some W → ∀ c ∈ E.C, pt.x c = if W.contains c then 1 else 0 := by
  unfold fixXs
  cases cfg.given with
  | none => simp only [List.all_nil, reduceCtorEq, false_imp_iff, implies_true]
  | some W => simp only [List.all_map, List.all_eq_true, Function.comp_apply, holds_kFixX, Option.some.injEq, forall_eq']

theorem all_exhOrNonEmpty (E : Elec) (cfg : Cfg) (pt : Point) :
    (exhOrNonEmpty E cfg).all (Constr.holds pt) = true ↔
      (cfg.exhaustive = true → ∀ c ∈ E.C, E.budget + 1 ≤ tot E pt + E.cost c + INF E * pt.x c) ∧
      (cfg.exhaustive = false → cfg.given = none → E.budget ≤ (nv E : Rat) * pt.b) := by
  unfold exhOrNonEmpty
  cases cfg.exhaustive with
  | true =>
    simp only [if_true, List.all_map, List.all_eq_true, Function.comp_apply, holds_kC0b, forall_const, Bool.true_eq_false,
      false_imp_iff, and_true]
  | false =>
    cases cfg.given with
    | none =>
      simp only [Bool.false_eq_true, if_false, List.all_cons, List.all_nil, Bool.and_true, holds_kNonEmpty, forall_const,
        false_imp_iff, true_and]
    | some W =>
      simp only [Bool.false_eq_true, if_false, List.all_nil, false_imp_iff, forall_const, reduceCtorEq, and_self]

theorem all_c1s (E : Elec) (pt : Point) :
    (c1s E).all (Constr.holds pt) = true ↔ ∀ ai ∈ voters E, ∀ c ∈ E.C, ai.1 c = false → pt.p ai.2 c = 0 := by
  unfold c1s
  simp only [List.all_flatMap, List.all_map, List.all_eq_true, Function.comp_apply, holds_kC1, List.mem_filter,
    Bool.not_eq_true', and_imp]

theorem all_c2s (E : Elec) (pt : Point) :
    (c2s E).all (Constr.holds pt) = true ↔ ∀ ai ∈ voters E, spentP E pt ai.2 ≤ pt.b := by
  unfold c2s
  simp only [List.all_map, List.all_eq_true, Function.comp_apply, holds_kC2]

theorem all_c3s (E : Elec) (pt : Point) :
    (c3s E).all (Constr.holds pt) = true ↔
      (∀ c ∈ E.C, paidP E pt c ≤ E.cost c) ∧ (∀ c ∈ E.C, E.cost c + (pt.x c - 1) * INF E ≤ paidP E pt c) := by
  unfold c3s
  simp only [List.all_flatMap, List.all_cons, List.all_nil, Bool.and_true, List.all_eq_true, Bool.and_eq_true, holds_kC3a,
    holds_kC3b, forall_and]

theorem all_c4s (E : Elec) (pt : Point) :
    (c4s E).all (Constr.holds pt) = true ↔
      (∀ ai ∈ voters E, ∀ c ∈ E.C, 0 ≤ pt.p ai.2 c) ∧ (∀ ai ∈ voters E, ∀ c ∈ E.C, pt.p ai.2 c ≤ pt.x c * INF E) := by
  unfold c4s
  simp only [List.all_flatMap, List.all_cons, List.all_nil, Bool.and_true, List.all_eq_true, Bool.and_eq_true, holds_kC4a,
    holds_kC4b, forall_and]

theorem all_plainCs (E : Elec) (pt : Point) :
    (plainCs E).all (Constr.holds pt) = true ↔
      (∀ ai ∈ voters E, pt.r ai.2 = pt.b - spentP E pt ai.2) ∧
      (∀ c ∈ E.C, sumOver (supp E c) (fun ai => pt.r ai.2) ≤ E.cost c + pt.x c * INF E) := by
  unfold plainCs
  simp only [List.all_append, List.all_map, List.all_eq_true, Bool.and_eq_true, Function.comp_apply, holds_kR, holds_kC5]

theorem all_stableMs (E : Elec) (pt : Point) :
    (stableMs E).all (Constr.holds pt) = true ↔
      (∀ ai ∈ voters E, ∀ c ∈ E.C, pt.p ai.2 c ≤ pt.m ai.2) ∧ (∀ ai ∈ voters E, pt.b - spentP E pt ai.2 ≤ pt.m ai.2) := by
  unfold stableMs
  simp only [List.all_append, List.all_flatMap, List.all_map, List.all_cons, List.all_nil, Bool.and_true, List.all_eq_true,
    Bool.and_eq_true, Function.comp_apply, holds_kM1, holds_kM2, forall_and]

theorem all_kS5 (E : Elec) (pt : Point) :
    (E.C.map (fun c => kS5 E c)).all (Constr.holds pt) = true ↔
      ∀ c ∈ E.C, sumOver (supp E c) (fun ai => pt.m ai.2) ≤ E.cost c + pt.x c * INF E := by
  simp only [List.all_map, List.all_eq_true, Function.comp_apply, holds_kS5]

theorem decl_holds (pt : Point) (v : Var) : VarDecl.holds pt { v := v, binary := false } = true ↔ 0 ≤ pt.val v :=
  decide_eq_true_iff

theorem decl_holds_binary (pt : Point) (v : Var) :
    VarDecl.holds pt { v := v, binary := true } = true ↔ pt.val v = 0 ∨ pt.val v = 1 := by
  simp [VarDecl.holds]

theorem all_varsPre (E : Elec) (pt : Point) :
    (varsPre E).all (VarDecl.holds pt) = true ↔
      (0 ≤ pt.b ∧ (∀ ai ∈ voters E, ∀ c ∈ E.C, 0 ≤ pt.p ai.2 c)) ∧ (∀ c ∈ E.C, pt.x c = 0 ∨ pt.x c = 1) := by
  unfold varsPre
  simp only [List.all_append, List.all_flatMap, List.all_map, List.all_cons, List.all_nil, Bool.and_true, List.all_eq_true,
    Bool.and_eq_true, Function.comp_apply, decl_holds, decl_holds_binary]
  rfl

theorem all_varsPost (E : Elec) (stable : Bool) (pt : Point) :
    (varsPost E stable).all (VarDecl.holds pt) = true ↔
      (stable = false → ∀ ai ∈ voters E, 0 ≤ pt.r ai.2) ∧ (stable = true → ∀ ai ∈ voters E, 0 ≤ pt.m ai.2) := by
  unfold varsPost
  simp only [List.all_map, List.all_eq_true, Function.comp_apply, decl_holds]
  cases stable
  · exact ⟨fun h => ⟨fun _ => h, fun h' => (nomatch h')⟩, fun h => h.1 rfl⟩
  · exact ⟨fun h => ⟨fun h' => (nomatch h'), fun _ => h⟩, fun h => h.2 rfl⟩

/-! ### the program, cut where a relaxation hooks in -/

theorem vars_split (E : Elec) (s : Bool) : vars E s = varsPre E ++ varsPost E s := rfl

theorem constraints_split (E : Elec) (cfg : Cfg) :
    constraints E cfg = preCs E cfg ++ (if cfg.stable then stableCs E else plainCs E) := rfl

theorem stableCs_split (E : Elec) : stableCs E = stableMs E ++ E.C.map (fun c => kS5 E c) := rfl

/-- everything but the S5 rows, as formulas: variable domains, hard-coded values, (C0a) … (C4), the r-variables with (C5) or
    the m-variables with their two rows -/
structure CoreF (E : Elec) (cfg : Cfg) (pt : Point) : Prop where
  bnd_b : 0 ≤ pt.b
  bnd_p : ∀ ai ∈ voters E, ∀ c ∈ E.C, 0 ≤ pt.p ai.2 c
  bnd_x : ∀ c ∈ E.C, pt.x c = 0 ∨ pt.x c = 1
  bnd_r : cfg.stable = false → ∀ ai ∈ voters E, 0 ≤ pt.r ai.2
  bnd_m : cfg.stable = true → ∀ ai ∈ voters E, 0 ≤ pt.m ai.2
  fixb : ∀ vb, cfg.fixB = some vb → pt.b = vb
  fixp : ∀ pf, cfg.fixP = some pf → ∀ ai ∈ voters E, ∀ c ∈ E.C, pt.p ai.2 c = pf ai.2 c
  fixx : ∀ W, cfg.given = some W → ∀ c ∈ E.C, pt.x c = if W.contains c then 1 else 0
  c0a : tot E pt ≤ E.budget
  c0b : cfg.exhaustive = true → ∀ c ∈ E.C, E.budget + 1 ≤ tot E pt + E.cost c + INF E * pt.x c
  nonEmpty : cfg.exhaustive = false → cfg.given = none → E.budget ≤ (nv E : Rat) * pt.b
  c1 : ∀ ai ∈ voters E, ∀ c ∈ E.C, ai.1 c = false → pt.p ai.2 c = 0
  c2 : ∀ ai ∈ voters E, spentP E pt ai.2 ≤ pt.b
  c3a : ∀ c ∈ E.C, paidP E pt c ≤ E.cost c
  c3b : ∀ c ∈ E.C, E.cost c + (pt.x c - 1) * INF E ≤ paidP E pt c
  c4 : ∀ ai ∈ voters E, ∀ c ∈ E.C, pt.p ai.2 c ≤ pt.x c * INF E
  rdef : cfg.stable = false → ∀ ai ∈ voters E, pt.r ai.2 = pt.b - spentP E pt ai.2
  c5 : cfg.stable = false → ∀ c ∈ E.C, sumOver (supp E c) (fun ai => pt.r ai.2) ≤ E.cost c + pt.x c * INF E
  m1 : cfg.stable = true → ∀ ai ∈ voters E, ∀ c ∈ E.C, pt.p ai.2 c ≤ pt.m ai.2
  m2 : cfg.stable = true → ∀ ai ∈ voters E, pt.b - spentP E pt ai.2 ≤ pt.m ai.2

/-- the executable test of the same part -/
def coreB (E : Elec) (cfg : Cfg) (pt : Point) : Bool :=
  (vars E cfg.stable).all (VarDecl.holds pt) && (preCs E cfg).all (Constr.holds pt)
  && (if cfg.stable then (stableMs E).all (Constr.holds pt) else (plainCs E).all (Constr.holds pt))

theorem coreB_iff (E : Elec) (cfg : Cfg) (pt : Point) : coreB E cfg pt = true ↔ CoreF E cfg pt := by
  unfold coreB preCs
  rw [vars_split]
  simp only [List.all_append, Bool.and_eq_true, List.all_cons, List.all_nil, Bool.and_true]
  rw [all_varsPre, all_varsPost, all_fixBs, all_fixPs, all_fixXs, holds_kC0a, all_exhOrNonEmpty, all_c1s, all_c2s, all_c3s,
    all_c4s, ite_eq_true_iff_imp, all_plainCs, all_stableMs]
  -- the (C4a) rows `0 ≤ p` repeat the lower bound of the p-variables: dropped one way, supplied from `bnd_p` the other
  constructor
  · rintro ⟨⟨⟨⟨⟨hb, hp⟩, hx⟩, hr, hm⟩, ⟨⟨⟨⟨⟨⟨⟨fb, fp⟩, fx⟩, h0a⟩, h0b, hne⟩, h1⟩, h2⟩, h3a, h3b⟩, _, h4⟩, hpl, hst⟩
    exact ⟨hb, hp, hx, hr, hm, fb, fp, fx, h0a, h0b, hne, h1, h2, h3a, h3b, h4, fun h => (hpl h).1, fun h => (hpl h).2,
      fun h => (hst h).1, fun h => (hst h).2⟩
  · intro F
    exact ⟨⟨⟨⟨⟨F.bnd_b, F.bnd_p⟩, F.bnd_x⟩, F.bnd_r, F.bnd_m⟩, ⟨⟨⟨⟨⟨⟨⟨F.fixb, F.fixp⟩, F.fixx⟩, F.c0a⟩, F.c0b, F.nonEmpty⟩,
      F.c1⟩, F.c2⟩, F.c3a, F.c3b⟩, F.bnd_p, F.c4⟩, fun h => ⟨F.rdef h, F.c5 h⟩, fun h => ⟨F.m1 h, F.m2 h⟩⟩

namespace CoreF

theorem pay_unselected {E : Elec} {cfg : Cfg} {pt : Point} (C : CoreF E cfg pt) {ai : (Pid → Bool) × Nat}
    (hai : ai ∈ voters E) {c : Pid} (hc : c ∈ E.C) (hx : pt.x c = 0) : pt.p ai.2 c = 0 := by
  have h := C.c4 ai hai c hc
  rw [hx, zero_mul] at h
  exact le_antisymm h (C.bnd_p ai hai c hc)

end CoreF

/-- the point satisfies that part and the S5 rows with `rc` in place of the cost -/
structure FeasibleR (E : Elec) (cfg : Cfg) (pt : Point) (rc : Pid → Rat) : Prop where
  core : CoreF E cfg pt
  s5 : cfg.stable = true → ∀ c ∈ E.C, sumOver (supp E c) (fun ai => pt.m ai.2) ≤ rc c + pt.x c * INF E

/-- the point satisfies the variable domains and all constraints of the program, written as formulas -/
structure Feasible (E : Elec) (cfg : Cfg) (pt : Point) : Prop where
  bnd_b : 0 ≤ pt.b
  bnd_p : ∀ ai ∈ voters E, ∀ c ∈ E.C, 0 ≤ pt.p ai.2 c
  bnd_x : ∀ c ∈ E.C, pt.x c = 0 ∨ pt.x c = 1
  bnd_r : cfg.stable = false → ∀ ai ∈ voters E, 0 ≤ pt.r ai.2
  bnd_m : cfg.stable = true → ∀ ai ∈ voters E, 0 ≤ pt.m ai.2
  fixb : ∀ vb, cfg.fixB = some vb → pt.b = vb
  fixp : ∀ pf, cfg.fixP = some pf → ∀ ai ∈ voters E, ∀ c ∈ E.C, pt.p ai.2 c = pf ai.2 c
  fixx : ∀ W, cfg.given = some W → ∀ c ∈ E.C, pt.x c = if W.contains c then 1 else 0
  c0a : tot E pt ≤ E.budget
  c0b : cfg.exhaustive = true → ∀ c ∈ E.C, E.budget + 1 ≤ tot E pt + E.cost c + INF E * pt.x c
  nonEmpty : cfg.exhaustive = false → cfg.given = none → E.budget ≤ (nv E : Rat) * pt.b
  c1 : ∀ ai ∈ voters E, ∀ c ∈ E.C, ai.1 c = false → pt.p ai.2 c = 0
  c2 : ∀ ai ∈ voters E, spentP E pt ai.2 ≤ pt.b
  c3a : ∀ c ∈ E.C, paidP E pt c ≤ E.cost c
  c3b : ∀ c ∈ E.C, E.cost c + (pt.x c - 1) * INF E ≤ paidP E pt c
  c4 : ∀ ai ∈ voters E, ∀ c ∈ E.C, pt.p ai.2 c ≤ pt.x c * INF E
  rdef : cfg.stable = false → ∀ ai ∈ voters E, pt.r ai.2 = pt.b - spentP E pt ai.2
  c5 : cfg.stable = false → ∀ c ∈ E.C, sumOver (supp E c) (fun ai => pt.r ai.2) ≤ E.cost c + pt.x c * INF E
  m1 : cfg.stable = true → ∀ ai ∈ voters E, ∀ c ∈ E.C, pt.p ai.2 c ≤ pt.m ai.2
  m2 : cfg.stable = true → ∀ ai ∈ voters E, pt.b - spentP E pt ai.2 ≤ pt.m ai.2
  s5 : cfg.stable = true → ∀ c ∈ E.C, sumOver (supp E c) (fun ai => pt.m ai.2) ≤ E.cost c + pt.x c * INF E

namespace Feasible

theorem core {E : Elec} {cfg : Cfg} {pt : Point} (F : Feasible E cfg pt) : CoreF E cfg pt := { F with }

end Feasible

theorem feasibleR_cost_iff (E : Elec) (cfg : Cfg) (pt : Point) : FeasibleR E cfg pt E.cost ↔ Feasible E cfg pt :=
  ⟨fun F => { F.core with s5 := F.s5 }, fun F => ⟨F.core, F.s5⟩⟩

theorem sat_eq (E : Elec) (cfg : Cfg) (pt : Point) :
    sat E cfg pt = (coreB E cfg pt && (!cfg.stable || (E.C.map (fun c => kS5 E c)).all (Constr.holds pt))) := by
  unfold sat coreB
  rw [constraints_split, stableCs_split]
  cases cfg.stable <;> simp only [Bool.false_eq_true, if_false, if_true, List.all_append, Bool.not_false, Bool.not_true,
    Bool.true_or, Bool.false_or, Bool.and_true, Bool.and_assoc]

theorem sat_iff (E : Elec) (cfg : Cfg) (pt : Point) : sat E cfg pt = true ↔ Feasible E cfg pt := by
  rw [sat_eq, ← feasibleR_cost_iff, Bool.and_eq_true, coreB_iff, not_or_eq_true_iff, all_kS5]
  exact ⟨fun ⟨C, h⟩ => ⟨C, h⟩, fun ⟨C, h⟩ => ⟨C, h⟩⟩

/-- the voter a point describes at index `ai.2` -/
def mkV (pt : Point) (ai : (Pid → Bool) × Nat) : PVoter := { app := ai.1, pay := pt.p ai.2 }

theorem toInput_N (E : Elec) (pt : Point) : (toInput E pt).N = (voters E).map (mkV pt) := rfl

theorem mem_toInput_N (E : Elec) (pt : Point) (v : PVoter) : v ∈ (toInput E pt).N ↔ ∃ ai ∈ voters E, mkV pt ai = v :=
  List.mem_map

theorem toInput_mem_W (E : Elec) (pt : Point) (c : Pid) : c ∈ (toInput E pt).W ↔ c ∈ E.C ∧ pt.x c = 1 := by
  simp [toInput]

theorem toInput_contains (E : Elec) (pt : Point) (c : Pid) :
    (toInput E pt).W.contains c = true ↔ c ∈ E.C ∧ pt.x c = 1 :=
  List.contains_iff_mem.trans (toInput_mem_W E pt c)

theorem toInput_mem_NW (E : Elec) (pt : Point) (hx : ∀ c ∈ E.C, pt.x c = 0 ∨ pt.x c = 1) (c : Pid)
    (hc : c ∈ (toInput E pt).NW) : c ∈ E.C ∧ pt.x c = 0 := by
  obtain ⟨hcC, hn⟩ := List.mem_filter.mp hc
  refine ⟨hcC, (hx c hcC).resolve_right fun h1 => ?_⟩
  rw [(toInput_contains E pt c).mpr ⟨hcC, h1⟩] at hn
  cases hn

theorem toInput_W_of_fixx (E : Elec) (pt : Point) (W : List Pid) (h : ∀ c ∈ E.C, pt.x c = if W.contains c then 1 else 0) :
    (toInput E pt).W = E.C.filter (fun c => W.contains c) := by
  apply List.filter_congr
  intro c hc
  rw [h c hc]
  cases W.contains c <;> simp

theorem toInput_total (E : Elec) (pt : Point) (hx : ∀ c ∈ E.C, pt.x c = 0 ∨ pt.x c = 1) : (toInput E pt).total = tot E pt := by
  show sumOver (E.C.filter (fun c => decide (pt.x c = 1))) E.cost = tot E pt
  rw [sumOver_filter_ite]
  apply sumOver_congr
  intro c hc
  rcases hx c hc with h | h <;> rw [h] <;> simp

theorem toInput_paidFor (E : Elec) (pt : Point) (c : Pid) : paidFor (toInput E pt) c = paidP E pt c :=
  sumOver_map (mkV pt) (voters E) _

theorem toInput_supporters (E : Elec) (pt : Point) (c : Pid) :
    (toInput E pt).N.filter (fun v => v.app c) = (supp E c).map (mkV pt) := by
  rw [toInput_N, List.filter_map]
  rfl

theorem toInput_leftoverOf (E : Elec) (pt : Point) (c : Pid) :
    leftoverOf (toInput E pt) c = sumOver (supp E c) (fun ai => pt.b - spentP E pt ai.2) := by
  unfold leftoverOf
  rw [toInput_supporters, sumOver_map]
  rfl

theorem toInput_stableOf (E : Elec) (pt : Point) (c : Pid) :
    stableOf (toInput E pt) c = sumOver (supp E c) (fun ai => stableVal (toInput E pt) (mkV pt ai)) := by
  rw [stableOf_eq, toInput_supporters, sumOver_map]

/-- SOUNDNESS of the encoding: a point that satisfies the rows outside S5 and the S5 rows with `rc` is a price system for
    `W = {c | x_c = 1}` that is stable with respect to the costs `rc` -/
theorem feasibleR_exactRelaxed (E : Elec) (cfg : Cfg) (pt : Point) (rc : Pid → Rat) (F : FeasibleR E cfg pt rc) :
    ExactRelaxed (toInput E pt) rc cfg.stable cfg.exhaustive := by
  have C := F.core
  have hNW := toInput_mem_NW E pt C.bnd_x
  have htot := toInput_total E pt C.bnd_x
  refine { feasible := ?feasible, exhaust := ?exhaust, approved := ?approved, nonneg := ?nonneg, within := ?within,
           selected := ?selected, unselected := ?unselected, noMoney := ?noMoney, stab := ?stab }
  case feasible => rw [htot]; exact C.c0a
  case exhaust =>
    intro he c hc
    obtain ⟨hcC, hx0⟩ := hNW c hc
    have h := C.c0b he c hcC
    rw [hx0, mul_zero, add_zero] at h
    rw [htot]
    exact not_le.mpr (lt_of_lt_of_le (lt_add_one _) h)
  case approved =>
    intro v hv c hc ha
    obtain ⟨ai, hai, rfl⟩ := (mem_toInput_N E pt v).mp hv
    exact C.c1 ai hai c hc ha
  case nonneg =>
    intro v hv c hc
    obtain ⟨ai, hai, rfl⟩ := (mem_toInput_N E pt v).mp hv
    exact C.bnd_p ai hai c hc
  case within =>
    intro v hv
    obtain ⟨ai, hai, rfl⟩ := (mem_toInput_N E pt v).mp hv
    exact C.c2 ai hai
  case selected =>
    intro c hc
    obtain ⟨hcC, hx1⟩ := (toInput_mem_W E pt c).mp hc
    have h2 := C.c3b c hcC
    rw [hx1, sub_self, zero_mul, add_zero] at h2
    rw [toInput_paidFor]
    exact le_antisymm (C.c3a c hcC) h2
  case unselected =>
    intro c hc
    obtain ⟨hcC, hx0⟩ := hNW c hc
    rw [toInput_paidFor]
    exact sumOver_eq_zero fun ai hai => C.pay_unselected hai hcC hx0
  case noMoney =>
    intro hs c hc
    obtain ⟨hcC, hx0⟩ := hNW c hc
    have h5 := C.c5 hs c hcC
    rw [hx0, zero_mul, add_zero] at h5
    rw [toInput_leftoverOf, sumOver_congr fun ai hai => (C.rdef hs ai (mem_voters_of_supp E c ai hai)).symm]
    exact h5
  case stab =>
    intro hs c hc
    obtain ⟨hcC, hx0⟩ := hNW c hc
    have h5 := F.s5 hs c hcC
    rw [hx0, zero_mul, add_zero] at h5
    rw [toInput_stableOf]
    refine le_trans (sumOver_mono fun ai hai => ?_) h5
    have hv := mem_voters_of_supp E c ai hai
    exact stableVal_le _ _ _ (C.m2 hs ai hv) (maxPayment_le _ _ _ (C.bnd_m hs ai hv) (C.m1 hs ai hv))

theorem feasible_exact (E : Elec) (cfg : Cfg) (pt : Point) (F : Feasible E cfg pt) :
    Exact (toInput E pt) cfg.stable cfg.exhaustive :=
  (exactRelaxed_cost_iff _ _ _).mp (feasibleR_exactRelaxed E cfg pt E.cost ((feasibleR_cost_iff E cfg pt).mpr F))

theorem voters_ofInput (X : Input) : voters (ofInput X) = X.N.zipIdx.map (fun vi => (vi.1.app, vi.2)) :=
  List.zipIdx_map

theorem nv_ofInput (X : Input) : nv (ofInput X) = X.N.length := List.length_map _

theorem pointOf_p (X : Input) (i : Nat) (v : PVoter) (h : X.N[i]? = some v) : (pointOf X).p i = v.pay := by
  funext c
  show (match X.N[i]? with | some v => v.pay c | none => 0) = v.pay c
  rw [h]

theorem pointOf_r (X : Input) (i : Nat) (v : PVoter) (h : X.N[i]? = some v) : (pointOf X).r i = leftover X v := by
  show (match X.N[i]? with | some v => leftover X v | none => 0) = leftover X v
  rw [h]

theorem pointOf_m (X : Input) (i : Nat) (v : PVoter) (h : X.N[i]? = some v) : (pointOf X).m i = stableVal X v := by
  show (match X.N[i]? with | some v => stableVal X v | none => 0) = stableVal X v
  rw [h]

theorem pointOf_voter (X : Input) (ai : (Pid → Bool) × Nat) (h : ai ∈ voters (ofInput X)) :
    ∃ v ∈ X.N, ai.1 = v.app ∧ (pointOf X).p ai.2 = v.pay ∧ (pointOf X).r ai.2 = leftover X v ∧
      (pointOf X).m ai.2 = stableVal X v ∧ spentP (ofInput X) (pointOf X) ai.2 = spent X v := by
  rw [voters_ofInput] at h
  obtain ⟨vi, hvi, rfl⟩ := List.mem_map.mp h
  have hget := List.mem_zipIdx_iff_getElem?.mp hvi
  refine ⟨vi.1, List.mem_of_getElem? hget, rfl, pointOf_p X _ _ hget, pointOf_r X _ _ hget, pointOf_m X _ _ hget, ?_⟩
  show sumOver X.C ((pointOf X).p vi.2) = spent X vi.1
  rw [pointOf_p X _ _ hget]
  rfl

theorem sumOver_voters (X : Input) (f : (Pid → Bool) × Nat → Rat) (g : PVoter → Rat)
    (H : ∀ i v, X.N[i]? = some v → f (v.app, i) = g v) : sumOver (voters (ofInput X)) f = sumOver X.N g := by
  rw [voters_ofInput, sumOver_map, ← sumOver_zipIdx_fst X.N 0 g]
  exact sumOver_congr fun vi hvi => H vi.2 vi.1 (List.mem_zipIdx_iff_getElem?.mp hvi)

theorem sumOver_supp (X : Input) (c : Pid) (f : (Pid → Bool) × Nat → Rat) (g : PVoter → Rat)
    (H : ∀ i v, X.N[i]? = some v → f (v.app, i) = g v) :
    sumOver (supp (ofInput X) c) f = sumOver (X.N.filter (fun v => v.app c)) g := by
  unfold supp
  rw [sumOver_filter_ite, sumOver_filter_ite]
  apply sumOver_voters
  intro i v hv
  show (if v.app c = true then f (v.app, i) else 0) = _
  rw [H i v hv]

theorem pointOf_paid (X : Input) (c : Pid) : paidP (ofInput X) (pointOf X) c = paidFor X c :=
  sumOver_voters X _ _ fun i v hv => congrFun (pointOf_p X i v hv) c

theorem pointOf_suppR (X : Input) (c : Pid) :
    sumOver (supp (ofInput X) c) (fun ai => (pointOf X).r ai.2) = leftoverOf X c :=
  sumOver_supp X c _ _ (pointOf_r X)

theorem pointOf_suppM (X : Input) (c : Pid) :
    sumOver (supp (ofInput X) c) (fun ai => (pointOf X).m ai.2) = stableOf X c :=
  sumOver_supp X c _ _ (pointOf_m X)

theorem pointOf_tot (X : Input) (hW : WithinInstance X) : tot (ofInput X) (pointOf X) = X.total := by
  rw [total_eq_ite X hW]
  apply sumOver_congr
  intro c _
  show X.cost c * (if X.W.contains c then 1 else 0) = _
  split <;> ring

theorem pointOf_x_cases (X : Input) (c : Pid) (hc : c ∈ X.C) :
    (c ∈ X.W ∧ (pointOf X).x c = 1) ∨ (c ∈ X.NW ∧ (pointOf X).x c = 0) := by
  show (_ ∧ (if X.W.contains c then (1 : Rat) else 0) = 1) ∨ (_ ∧ (if X.W.contains c then (1 : Rat) else 0) = 0)
  by_cases h : X.W.contains c = true
  · exact Or.inl ⟨by simpa using h, if_pos h⟩
  · exact Or.inr ⟨mem_NW_of X c hc h, if_neg h⟩

/-- the bounds the big-M constants of `priceable()` need from a price system that is to be found: for every SELECTED project
    the supporters' leftovers (plain) / stability amounts (stable) sum to at most `cost + INF` / `relaxed cost + INF` — the
    program imposes C5 / S5 on selected projects too, relaxed only by `INF = 10·budget` -/
structure BoundedR (X : Input) (stable : Bool) (rc : Pid → Rat) : Prop where
  plain : stable = false → ∀ c ∈ X.W, leftoverOf X c ≤ X.cost c + 10 * X.budget
  stab : stable = true → ∀ c ∈ X.W, stableOf X c ≤ rc c + 10 * X.budget

structure Bounded (X : Input) (stable : Bool) : Prop where
  plain : stable = false → ∀ c ∈ X.W, leftoverOf X c ≤ X.cost c + 10 * X.budget
  stab : stable = true → ∀ c ∈ X.W, stableOf X c ≤ X.cost c + 10 * X.budget

theorem boundedR_cost_iff (X : Input) (stable : Bool) : BoundedR X stable X.cost ↔ Bounded X stable :=
  ⟨fun ⟨p, s⟩ => ⟨p, s⟩, fun ⟨p, s⟩ => ⟨p, s⟩⟩

/-- COMPLETENESS of the encoding, with the bounds explicit: a price system that is stable with respect to the costs `rc` and
    whose numbers fit under the big-M constants is a point of the rows outside S5 and of the S5 rows with `rc` -/
theorem exactRelaxed_feasibleR (X : Input) (cfg : Cfg) (rc : Pid → Rat) (Ex : ExactRelaxed X rc cfg.stable cfg.exhaustive)
    (hW : WithinInstance X)
    (hcost : ∀ c ∈ X.C, 0 ≤ X.cost c)
    (hb0 : 0 ≤ X.b)
    (hInt : cfg.exhaustive = true → (∃ k : Int, X.budget = k) ∧ ∀ c ∈ X.C, ∃ k : Int, X.cost c = k)
    (hB1 : cfg.exhaustive = true → 1 ≤ X.budget)
    (hbig : ∀ c ∈ X.NW, X.cost c ≤ 10 * X.budget)
    (hne : cfg.exhaustive = false → cfg.given = none → X.budget ≤ (X.N.length : Rat) * X.b)
    (hbd : BoundedR X cfg.stable rc)
    (hg : ∀ W', cfg.given = some W' → W' = X.W)
    (hfb : ∀ vb, cfg.fixB = some vb → vb = X.b)
    (hfp : ∀ pf, cfg.fixP = some pf → ∀ ai ∈ voters (ofInput X), ∀ c ∈ X.C, pf ai.2 c = (pointOf X).p ai.2 c) :
    FeasibleR (ofInput X) cfg (pointOf X) rc := by
  have htot := pointOf_tot X hW
  have htot0 := total_nonneg X hW hcost
  have hbud0 : 0 ≤ X.budget := le_trans htot0 Ex.feasible
  have hINF : INF (ofInput X) = X.budget * 10 := rfl
  have hvoter := pointOf_voter X
  refine { core := { bnd_b := hb0, bnd_p := ?bnd_p, bnd_x := ?bnd_x, bnd_r := ?bnd_r, bnd_m := ?bnd_m, fixb := ?fixb,
                     fixp := ?fixp, fixx := ?fixx, c0a := ?c0a, c0b := ?c0b, nonEmpty := ?nonEmpty, c1 := ?c1, c2 := ?c2,
                     c3a := ?c3a, c3b := ?c3b, c4 := ?c4, rdef := ?rdef, c5 := ?c5, m1 := ?m1, m2 := ?m2 },
           s5 := ?s5 }
  case bnd_p =>
    intro ai hai c hc
    obtain ⟨v, hv, -, hp, -⟩ := hvoter ai hai
    rw [hp]
    exact Ex.nonneg v hv c hc
  case bnd_x =>
    intro c hc
    exact (pointOf_x_cases X c hc).elim (fun h => Or.inr h.2) (fun h => Or.inl h.2)
  case bnd_r =>
    intro _ ai hai
    obtain ⟨v, hv, -, -, hr, -⟩ := hvoter ai hai
    rw [hr]
    exact sub_nonneg.mpr (Ex.within v hv)
  case bnd_m =>
    intro _ ai hai
    obtain ⟨v, hv, -, -, -, hm, -⟩ := hvoter ai hai
    rw [hm]
    exact le_trans (sub_nonneg.mpr (Ex.within v hv)) (leftover_le_stableVal X v)
  case fixb => intro vb h; exact (hfb vb h).symm
  case fixp => intro pf h ai hai c hc; exact (hfp pf h ai hai c hc).symm
  case fixx =>
    intro W' h c _
    rw [hg W' h]
    rfl
  case c0a => rw [htot]; exact Ex.feasible
  case c0b =>
    intro he c hc
    rw [htot, hINF]
    show X.budget + 1 ≤ X.total + X.cost c + X.budget * 10 * (pointOf X).x c
    rcases pointOf_x_cases X c hc with ⟨-, hx⟩ | ⟨hnw, hx⟩ <;> rw [hx]
    · linarith only [hB1 he, hcost c hc, htot0]
    · -- the program writes `total + cost > budget` as `≥ budget + 1`: all three are integers
      obtain ⟨hbi, hci⟩ := hInt he
      obtain ⟨kt, hkt⟩ := sumOver_isInt X.W X.cost (fun a ha => hci a (mem_W_C X hW a ha))
      obtain ⟨kc, hkc⟩ := hci c hc
      have hi : ∃ k : Int, X.total + X.cost c = k := ⟨kt + kc, by rw [Int.cast_add, ← hkc, ← hkt]; rfl⟩
      rw [mul_zero, add_zero]
      exact add_one_le_of_int_lt hbi hi (not_le.mp (Ex.exhaust he c hnw))
  case nonEmpty =>
    intro he hgn
    rw [nv_ofInput]
    exact hne he hgn
  case c1 =>
    intro ai hai c hc ha
    obtain ⟨v, hv, happ, hp, -⟩ := hvoter ai hai
    rw [hp]
    exact Ex.approved v hv c hc (happ ▸ ha)
  case c2 =>
    intro ai hai
    obtain ⟨v, hv, -, -, -, -, hsp⟩ := hvoter ai hai
    rw [hsp]
    exact Ex.within v hv
  case c3a =>
    intro c hc
    rw [pointOf_paid]
    rcases pointOf_x_cases X c hc with ⟨hw, -⟩ | ⟨hnw, -⟩
    · exact le_of_eq (Ex.selected c hw)
    · rw [Ex.unselected c hnw]; exact hcost c hc
  case c3b =>
    intro c hc
    rw [pointOf_paid, hINF]
    show X.cost c + ((pointOf X).x c - 1) * (X.budget * 10) ≤ paidFor X c
    rcases pointOf_x_cases X c hc with ⟨hw, hx⟩ | ⟨hnw, hx⟩ <;> rw [hx]
    · rw [Ex.selected c hw, sub_self, zero_mul, add_zero]
    · rw [Ex.unselected c hnw]
      linarith only [hbig c hnw]
  case c4 =>
    intro ai hai c hc
    obtain ⟨v, hv, -, hp, -⟩ := hvoter ai hai
    have hle := pay_le_paidFor X c (fun w hw => Ex.nonneg w hw c hc) hv
    rw [hp, hINF]
    rcases pointOf_x_cases X c hc with ⟨hw, hx⟩ | ⟨hnw, hx⟩ <;> rw [hx]
    · -- a selected project costs at most the whole allocation, which fits into the budget
      have h2 : X.cost c ≤ X.total := le_sumOver_of_mem (l := X.W) (fun c hc => hcost c (mem_W_C X hW c hc)) hw
      linarith only [hle, Ex.selected c hw, h2, Ex.feasible, hbud0]
    · rw [zero_mul, ← Ex.unselected c hnw]
      exact hle
  case rdef =>
    intro _ ai hai
    obtain ⟨v, -, -, -, hr, -, hsp⟩ := hvoter ai hai
    rw [hr, hsp]
    rfl
  case c5 =>
    intro hs c hc
    rw [pointOf_suppR, hINF]
    show leftoverOf X c ≤ X.cost c + (pointOf X).x c * (X.budget * 10)
    rcases pointOf_x_cases X c hc with ⟨hw, hx⟩ | ⟨hnw, hx⟩ <;> rw [hx]
    · rw [one_mul, mul_comm]
      exact hbd.plain hs c hw
    · rw [zero_mul, add_zero]
      exact Ex.noMoney hs c hnw
  case m1 =>
    intro _ ai hai c hc
    obtain ⟨v, -, -, hp, -, hm, -⟩ := hvoter ai hai
    rw [hp, hm]
    exact le_trans (pay_le_maxPayment X v c hc) (maxPayment_le_stableVal X v)
  case m2 =>
    intro _ ai hai
    obtain ⟨v, -, -, -, -, hm, hsp⟩ := hvoter ai hai
    rw [hm, hsp]
    exact leftover_le_stableVal X v
  case s5 =>
    intro hs c hc
    rw [pointOf_suppM, hINF]
    rcases pointOf_x_cases X c hc with ⟨hw, hx⟩ | ⟨hnw, hx⟩ <;> rw [hx]
    · rw [one_mul, mul_comm]
      exact hbd.stab hs c hw
    · rw [zero_mul, add_zero]
      exact Ex.stab hs c hnw

theorem exact_feasible (X : Input) (cfg : Cfg) (Ex : Exact X cfg.stable cfg.exhaustive)
    (hW : WithinInstance X)
    (hcost : ∀ c ∈ X.C, 0 ≤ X.cost c)
    (hb0 : 0 ≤ X.b)
    (hInt : cfg.exhaustive = true → (∃ k : Int, X.budget = k) ∧ ∀ c ∈ X.C, ∃ k : Int, X.cost c = k)
    (hB1 : cfg.exhaustive = true → 1 ≤ X.budget)
    (hbig : ∀ c ∈ X.NW, X.cost c ≤ 10 * X.budget)
    (hne : cfg.exhaustive = false → cfg.given = none → X.budget ≤ (X.N.length : Rat) * X.b)
    (hbd : Bounded X cfg.stable)
    (hg : ∀ W', cfg.given = some W' → W' = X.W)
    (hfb : ∀ vb, cfg.fixB = some vb → vb = X.b)
    (hfp : ∀ pf, cfg.fixP = some pf → ∀ ai ∈ voters (ofInput X), ∀ c ∈ X.C, pf ai.2 c = (pointOf X).p ai.2 c) :
    Feasible (ofInput X) cfg (pointOf X) :=
  (feasibleR_cost_iff _ cfg _).mp (exactRelaxed_feasibleR X cfg X.cost ((exactRelaxed_cost_iff _ _ _).mpr Ex) hW hcost hb0 hInt
    hB1 hbig hne ((boundedR_cost_iff X _).mpr hbd) hg hfb hfp)

/-! ### normalisation: the voter budget never needs to exceed the budget limit -/

def capB (X : Input) : Input := { X with b := if X.b ≤ X.budget then X.b else X.budget }

theorem capB_b (X : Input) : (capB X).b = min X.b X.budget := (min_def _ _).symm

theorem capB_b_le (X : Input) : (capB X).b ≤ X.b := capB_b X ▸ min_le_left _ _

theorem capB_b_le_budget (X : Input) : (capB X).b ≤ X.budget := capB_b X ▸ min_le_right _ _

theorem capB_b_nonneg (X : Input) (hb : 0 ≤ X.b) (hB : 0 ≤ X.budget) : 0 ≤ (capB X).b := capB_b X ▸ le_min hb hB

theorem leftover_capB_le (X : Input) (v : PVoter) : leftover (capB X) v ≤ leftover X v :=
  sub_le_sub_right (capB_b_le X) _

theorem stableVal_capB_le (X : Input) (v : PVoter) : stableVal (capB X) v ≤ stableVal X v :=
  stableVal_le _ _ _ (le_trans (leftover_capB_le X v) (leftover_le_stableVal X v)) (maxPayment_le_stableVal X v)

theorem capB_exactRelaxed (X : Input) (rc : Pid → Rat) (s e : Bool) (Ex : ExactRelaxed X rc s e) (hW : WithinInstance X) :
    ExactRelaxed (capB X) rc s e := by
  refine { Ex with within := ?_, noMoney := ?_, stab := ?_ }
  · intro v hv
    rw [capB_b]
    exact le_min (Ex.within v hv) (le_trans (spent_le_total X rc s e Ex hW v hv) Ex.feasible)
  · intro hs c hc
    exact le_trans (sumOver_mono fun v _ => leftover_capB_le X v) (Ex.noMoney hs c hc)
  · intro hs c hc
    refine le_trans ?_ (Ex.stab hs c hc)
    rw [stableOf_eq, stableOf_eq]
    exact sumOver_mono fun v _ => stableVal_capB_le X v

theorem capB_exact (X : Input) (s e : Bool) (Ex : Exact X s e) (hW : WithinInstance X) : Exact (capB X) s e :=
  (exactRelaxed_cost_iff (capB X) s e).mp (capB_exactRelaxed X X.cost s e ((exactRelaxed_cost_iff X s e).mpr Ex) hW)

theorem capB_boundedR (X : Input) (rc : Pid → Rat) (s e : Bool) (Ex : ExactRelaxed X rc s e) (hW : WithinInstance X)
    (hcost : ∀ c ∈ X.C, 0 ≤ X.cost c) (hb0 : 0 ≤ X.b)
    (hplain : s = false → ∀ c ∈ X.W, ((X.N.filter (fun v => v.app c)).length : Rat) ≤ 10)
    (hstab : s = true → ∀ c ∈ X.W, ((X.N.filter (fun v => v.app c)).length : Rat) * X.budget ≤ rc c + 10 * X.budget) :
    BoundedR (capB X) s rc := by
  have hbud0 : 0 ≤ X.budget := le_trans (total_nonneg X hW hcost) Ex.feasible
  have hb' := capB_b_nonneg X hb0 hbud0
  -- supporters who each hold at most the capped voter budget hold at most (their number)·budget together
  have key : ∀ (f : PVoter → Rat), (∀ v ∈ X.N, f v ≤ (capB X).b) → ∀ c,
      sumOver (X.N.filter (fun v => v.app c)) f ≤ ((X.N.filter (fun v => v.app c)).length : Rat) * X.budget := by
    intro f hf c
    refine le_trans (sumOver_mono fun v hv => hf v (List.mem_filter.mp hv).1) ?_
    rw [sumOver_const]
    exact mul_le_mul_of_nonneg_left (capB_b_le_budget X) (Nat.cast_nonneg _)
  have hleft : ∀ v ∈ X.N, leftover (capB X) v ≤ (capB X).b := fun v hv =>
    sub_le_self _ (sumOver_nonneg _ _ fun c hc => Ex.nonneg v hv c hc)
  constructor
  · intro hs c hc
    exact le_trans (key (leftover (capB X)) hleft c) (le_trans (mul_le_mul_of_nonneg_right (hplain hs c hc) hbud0)
      (le_add_of_nonneg_left (hcost c (mem_W_C X hW c hc))))
  · intro hs c hc
    refine le_trans (key (stableVal (capB X)) (fun v hv => stableVal_le _ _ _ (hleft v hv) ?_) c) (hstab hs c hc)
    -- a payment is at most what the voter spends, and that is within the capped budget
    refine maxPayment_le _ _ _ hb' fun c' hc' => le_trans ?_ ((capB_exactRelaxed X rc s e Ex hW).within v hv)
    exact le_sumOver_of_mem (fun c'' hc'' => Ex.nonneg v hv c'' hc'') hc'

theorem capB_bounded (X : Input) (s e : Bool) (Ex : Exact X s e) (hW : WithinInstance X) (hcost : ∀ c ∈ X.C, 0 ≤ X.cost c)
    (hb0 : 0 ≤ X.b) (hsmall : ∀ c ∈ X.W, ((X.N.filter (fun v => v.app c)).length : Rat) ≤ 10) : Bounded (capB X) s := by
  have hbud0 : 0 ≤ X.budget := le_trans (total_nonneg X hW hcost) Ex.feasible
  refine (boundedR_cost_iff _ s).mp (capB_boundedR X X.cost s e ((exactRelaxed_cost_iff X s e).mpr Ex) hW hcost hb0
    (fun _ => hsmall) fun _ c hc => ?_)
  have h1 := mul_le_mul_of_nonneg_right (hsmall c hc) hbud0
  have h2 := hcost c (mem_W_C X hW c hc)
  linarith

/-- the "prevent empty allocation" requirement survives the cap -/
theorem capB_nonEmpty (X : Input) (hbud0 : 0 ≤ X.budget) (h : X.budget ≤ (X.N.length : Rat) * X.b) :
    X.budget ≤ (X.N.length : Rat) * (capB X).b := by
  show X.budget ≤ (X.N.length : Rat) * (if X.b ≤ X.budget then X.b else X.budget)
  by_cases hb : X.b ≤ X.budget
  · rw [if_pos hb]; exact h
  · rw [if_neg hb]
    rcases Nat.eq_zero_or_pos X.N.length with hn | hn
    · rw [hn, Nat.cast_zero, zero_mul] at h ⊢
      exact h
    · exact le_mul_of_one_le_left hbud0 (by exact_mod_cast hn)

/-! ### what the big-M constants exclude -/

/-- an unselected project must cost at most `INF` (second inequality of C3 with `x_c = 0`) -/
theorem feasible_unselected_cost (E : Elec) (cfg : Cfg) (pt : Point) (F : Feasible E cfg pt) (c : Pid) (hc : c ∈ E.C)
    (hx : pt.x c = 0) : E.cost c ≤ INF E := by
  have h := F.c3b c hc
  rw [hx, show paidP E pt c = 0 from sumOver_eq_zero fun ai hai => F.core.pay_unselected hai hc hx] at h
  linarith only [h]

/-- THE LIMIT OF `INF = 10·budget`: the program imposes C5 / S5 on SELECTED projects too, relaxed only by `INF`.
    If a selected project `d` has a single supporter (voter `i0`, who must therefore own `cost(d)`, and so must everybody),
    and a selected project `c` has supporters who approve nothing else, then every point of the program satisfies
    `(number of supporters of c) · cost(d) ≤ 2·cost(c) + INF`, whatever price systems exist. -/
theorem bigM_selected_bound (E : Elec) (cfg : Cfg) (pt : Point) (F : Feasible E cfg pt) (hnd : E.C.Nodup)
    (c d : Pid) (hc : c ∈ E.C) (hd : d ∈ E.C) (hxc : pt.x c = 1) (hxd : pt.x d = 1) (i0 : Nat)
    (hsole : ∀ ai ∈ voters E, ai.2 ≠ i0 → ai.1 d = false)
    (hsingle : ∀ ai ∈ supp E c, ∀ c' ∈ E.C, c' ≠ c → ai.1 c' = false) :
    ((supp E c).length : Rat) * E.cost d ≤ 2 * E.cost c + INF E := by
  have hsuppmem := mem_voters_of_supp E c
  -- everybody owns at least cost(d)
  have hb : E.cost d ≤ pt.b := by
    have h1 := F.c3b d hd
    rw [hxd] at h1
    have h2 : paidP E pt d ≤ pt.b := by
      apply sumOver_zipIdx_single E.apps 0 i0 _ pt.b F.bnd_b
      · intro ai hai hne
        exact F.c1 ai hai d hd (hsole ai hai hne)
      · intro ai hai
        exact le_trans (le_sumOver_of_mem (fun c' hc' => F.bnd_p ai hai c' hc') hd) (F.c2 ai hai)
    linarith
  -- the supporters of c spend on c only, together at most cost(c)
  have hsp : sumOver (supp E c) (fun ai => spentP E pt ai.2) ≤ E.cost c := by
    have h1 : sumOver (supp E c) (fun ai => spentP E pt ai.2) = sumOver (supp E c) (fun ai => pt.p ai.2 c) :=
      sumOver_congr fun ai hai => sumOver_single E.C hnd (pt.p ai.2) c hc fun c' hc' hne =>
        F.c1 ai (hsuppmem ai hai) c' hc' (hsingle ai hai c' hc' hne)
    have h2 : sumOver (supp E c) (fun ai => pt.p ai.2 c) ≤ paidP E pt c := by
      unfold supp paidP
      rw [sumOver_filter_ite]
      apply sumOver_mono
      intro ai hai
      split
      · exact le_refl _
      · exact F.bnd_p ai hai c hc
    have h3 := F.c3a c hc
    linarith
  -- what C5 / S5 say about the selected project c
  have hsum : sumOver (supp E c) (fun ai => pt.b - spentP E pt ai.2) ≤ E.cost c + INF E := by
    cases hs : cfg.stable with
    | false =>
      have h5 := F.c5 hs c hc
      rw [hxc, one_mul] at h5
      rw [sumOver_congr fun ai hai => (F.rdef hs ai (hsuppmem ai hai)).symm]
      exact h5
    | true =>
      have h5 := F.s5 hs c hc
      rw [hxc, one_mul] at h5
      exact le_trans (sumOver_mono fun ai hai => F.m2 hs ai (hsuppmem ai hai)) h5
  rw [sumOver_sub, sumOver_const] at hsum
  have hmul : ((supp E c).length : Rat) * E.cost d ≤ ((supp E c).length : Rat) * pt.b :=
    mul_le_mul_of_nonneg_left hb (Nat.cast_nonneg _)
  linarith

end Pabu.PriceMIP
