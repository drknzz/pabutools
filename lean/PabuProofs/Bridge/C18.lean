/-
  Bridge C18 — the regenerated leaf formulas of the descriptive statistics (Gen/C18.lean, produced from the
  current source of pabutools/utils.py and pabutools/analysis/votersatisfaction.py on every run) are the
  formulas of the model (PabuModel/Stats.lean): the streaming-mean update, the Gini formula and its cumulative
  term, and the bin of a satisfaction value in the histogram.
-/
import Gen.C18
import PabuModel.Stats
import Mathlib.Tactic.NormNum
namespace Pabu.Bridge.C18
open Stats

/-- `n += 1; mean += frac(value - mean, n)` -/
theorem meanUpdate (x : Rat) (k n : Nat) (m : Rat) :
    meanRep x (k + 1) n m = meanRep x k (n + 1) (Gen.C18.meanUpdate m x ((n + 1 : Nat) : Rat)) := rfl

/-- `frac(num_values + 1 - frac(2 * total_cum_sum, sum(values)), num_values)` -/
theorem giniFormula (xs : List Rat) :
    giniCum xs =
      if allNul xs = true then 0
      else Gen.C18.giniFormula ((xs.length : Nat) : Rat) (cumFrom xs.length 0 (sortRat xs)) (sumOver xs id) := rfl

/-- `total_cum_sum += v * (num_values - i)`, one step (`i ≤ num_values`: the indices of `enumerate`) -/
theorem giniTerm (n i : Nat) (v : Rat) (vs : List Rat) (h : i ≤ n) :
    cumFrom n i (v :: vs) = Gen.C18.giniTerm v ((n : Nat) : Rat) ((i : Nat) : Rat) + cumFrom n (i + 1) vs := by
  unfold Gen.C18.giniTerm
  rw [cumFrom, Nat.cast_sub h, zero_add]

/-- the whole loop over `enumerate(sorted_values)` started at index `i` -/
theorem giniTerm_sum (n : Nat) : ∀ (vs : List Rat) (i : Nat), i + vs.length ≤ n →
    cumFrom n i vs = sumOver (vs.zipIdx i) (fun e => Gen.C18.giniTerm e.1 ((n : Nat) : Rat) ((e.2 : Nat) : Rat)) := by
  intro vs
  induction vs with
  | nil => exact fun _ _ => rfl
  | cons v vs ih =>
    intro i h
    rw [List.length_cons] at h
    rw [giniTerm n i v vs (by omega), ih (i + 1) (by omega), List.zipIdx_cons]
    rfl

/-- the WHOLE cumulative loop of `gini_coefficient` (statement-level leaf `Gen.C18.giniCumLoop`, regenerated from
    `for i, v in enumerate(sorted_values): total_cum_sum += v * (num_values - i)`): on the sorted values paired with their ranks it
    adds the model's `cumFrom` to the running total -/
theorem giniCumLoop (n : Nat) : ∀ (vs : List Rat) (i : Nat) (acc : Rat), i + vs.length ≤ n →
    Gen.C18.giniCumLoop ((n : Nat) : Rat) acc ((vs.zipIdx i).map (fun e => (((e.2 : Nat) : Rat), e.1))) = acc + cumFrom n i vs := by
  intro vs
  induction vs with
  | nil => exact fun _ acc _ => (add_zero acc).symm
  | cons v vs ih =>
    intro i acc h
    rw [List.length_cons] at h
    rw [List.zipIdx_cons, List.map_cons, Gen.C18.giniCumLoop, ih (i + 1) _ (by omega), cumFrom,
      Nat.cast_sub (by omega), add_assoc]

/-- the bin of a satisfaction value: last bin if `satisfaction >= max_satisfaction`, otherwise
    `ceil(satisfaction * (num_bins - 1) / max_satisfaction)` (`num_bins ≥ 1`: with no bin the library
    raises `IndexError`) -/
theorem histBin (bins : Nat) (mx s : Rat) (h : 1 ≤ bins) :
    binOf bins mx s =
      if Gen.C18.histTop s mx = true then bins - 1
      else (Rat.ceil (Gen.C18.histArg s ((bins : Nat) : Rat) mx)).toNat := by
  unfold binOf Gen.C18.histTop Gen.C18.histArg
  rw [Nat.cast_sub h]
  simp only [ge_iff_le, decide_eq_true_eq, Nat.cast_one]

example : Gen.C18.meanUpdate 2 5 3 = 3 ∧ Gen.C18.histTop 4 4 = true ∧ Gen.C18.histArg 1 5 4 = 1 := by
  norm_num [Gen.C18.meanUpdate, Gen.C18.histTop, Gen.C18.histArg]

end Pabu.Bridge.C18
