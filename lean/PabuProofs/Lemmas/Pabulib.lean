/-
  The Pabulib row model section by section: the metadata dicts, one PROJECTS row, one VOTES row, the row loop, the META block and
  the limits, the two row blocks, `parseRows (writeRows e) = ok (norm e)`, and the normal form `norm`
  (idempotent, well-formed); `WF` is decidable.
-/
import PabuProofs.Lemmas.PabulibFields
import PabuProofs.Lemmas.PabulibMaps
namespace Pabu.Pabulib

/-! ## metadata dicts -/

theorem aget_reserved_none {m : Map Str} {res : Str → Bool} (hw : WFMd m res) {k : Str} (hk : res k = true) :
    aget k m = none := by
  refine aget_none_of_not_mem k m (fun hm => ?_)
  obtain ⟨kv, hkv, rfl⟩ := mem_keysOf_iff.mp hm
  exact Bool.noConfusion ((hw.keys kv hkv).2.symm.trans hk)

theorem clean_of_aget {m : Map Str} {res : Str → Bool} (hw : WFMd m res) {k v : Str} (h : aget k m = some v) :
    CleanCell v :=
  hw.vals _ (mem_of_aget h)

theorem wfmd_ains {m : Map Str} {res : Str → Bool} (hw : WFMd m res) {k v : Str} (hk : strip k = k)
    (hr : res k = false) (hv : CleanCell v) : WFMd (ains k v m) res where
  sorted := sortedKeys_of_sorted (sorted_ains _ _ _ (sorted_of_sortedKeys hw.sorted))
  keys := fun kv hkv => (mem_ains hkv).elim (fun h => h ▸ ⟨hk, hr⟩) (hw.keys kv)
  vals := fun kv hkv => (mem_ains hkv).elim (fun h => h ▸ hv) (hw.vals kv)

/-! ## PROJECTS rows -/

def isCatKey (h : Str) : Bool := h == kCategory || h == kCategories
def isTgtKey (h : Str) : Bool := h == kTarget || h == kTargets

theorem isCatKey_iff {h : Str} : isCatKey h = true ↔ h = kCategory ∨ h = kCategories := by
  rw [isCatKey, Bool.or_eq_true, beq_iff_eq, beq_iff_eq]

theorem isTgtKey_iff {h : Str} : isTgtKey h = true ↔ h = kTarget ∨ h = kTargets := by
  rw [isTgtKey, Bool.or_eq_true, beq_iff_eq, beq_iff_eq]

theorem reservedProjKey_eq (k : Str) : reservedProjKey k = (isCatKey k || isTgtKey k) := by
  rw [reservedProjKey, isCatKey, isTgtKey, Bool.or_assoc]

/-- what the PROJECTS loop stores in the metadata dict under header cell `h` of a row with cells `c` -/
def mdCell (c : Str → Str) (h : Str) : Option Str := if isCatKey h || isTgtKey h then none else readCell (c h)

/-- the set read from a categories / targets cell -/
def tagsOf (v : Str) : List Str := setOf (stripAll (splitOnC ',' v))

/-- the PROJECTS cell loop collects three things, each by a fold of its own over the header -/
theorem projRowMeta_map (c : Str → Str) : ∀ (hs : List Str) (acc : ProjAcc), (∀ h ∈ hs, strip h = h) →
    projRowMeta hs (hs.map c) acc = .ok
      { md := (pairsOf hs (mdCell c)).foldl (fun a e => ains e.1 e.2 a) acc.md
        cats := hs.foldl (fun cs h => if (!isNone (c h) && isCatKey h) = true then tagsOf (c h) else cs) acc.cats
        targets := hs.foldl (fun ts h => if (!isNone (c h) && (!isCatKey h && isTgtKey h)) = true then tagsOf (c h) else ts)
          acc.targets } := by
  intro hs
  induction hs with
  | nil => exact fun _ _ => rfl
  | cons h hs ih =>
    intro acc hst
    have ih := fun acc => ih acc (fun x hx => hst x (List.mem_cons_of_mem _ hx))
    rw [List.map_cons, projRowMeta, hst h List.mem_cons_self, pairsOf_cons, mdCell, readCell,
      List.foldl_cons, List.foldl_cons]
    by_cases h1 : isNone (c h) = true
    · rw [if_pos h1, ih, h1]
      simp only [Bool.not_true, Bool.false_and, Bool.false_eq_true, if_false, if_true, ite_self]
    · rw [if_neg h1, (Bool.not_eq_true _).mp h1]
      by_cases h2 : isCatKey h = true
      · rw [if_pos (isCatKey_iff.mp h2), ih, h2]
        rfl
      · rw [if_neg (mt isCatKey_iff.mpr h2), (Bool.not_eq_true _).mp h2]
        by_cases h3 : isTgtKey h = true
        · rw [if_pos (isTgtKey_iff.mp h3), ih, h3]
          rfl
        · rw [if_neg (mt isTgtKey_iff.mpr h3), ih, (Bool.not_eq_true _).mp h3]
          rfl

/-! ### generic facts about the folds -/

theorem foldl_congr_mem {α γ : Type} {f g : α → γ → α} : ∀ (l : List γ) (a : α),
    (∀ a, ∀ x ∈ l, f a x = g a x) → l.foldl f a = l.foldl g a :=
  fun _ a h => List.foldl_ext f g a h

theorem foldl_one_key {α : Type} (k0 : Str) (upd : Str → Bool) (newv : Str → α) :
    ∀ (hs : List Str) (init : α), (∀ x ∈ hs, upd x = true → x = k0) →
    hs.foldl (fun a x => if upd x = true then newv x else a) init =
      if k0 ∈ hs ∧ upd k0 = true then newv k0 else init := by
  intro hs
  induction hs with
  | nil => exact fun init _ => (if_neg (fun h => absurd h.1 List.not_mem_nil)).symm
  | cons x t ih =>
    intro init h
    rw [List.foldl_cons, ih _ (fun y hy => h y (List.mem_cons_of_mem _ hy))]
    by_cases hx : upd x = true
    · obtain rfl : x = k0 := h x List.mem_cons_self hx
      rw [if_pos hx, ite_self, if_pos ⟨List.mem_cons_self, hx⟩]
    · rw [if_neg hx]
      have : (k0 ∈ x :: t ∧ upd k0 = true) ↔ (k0 ∈ t ∧ upd k0 = true) :=
        and_congr_left (fun hu => ⟨fun hm => (List.mem_cons.mp hm).resolve_left (fun e => hx (e ▸ hu)),
          List.mem_cons_of_mem x⟩)
      rw [if_congr this rfl rfl]

/-! ### `project_keys` -/

theorem mem_pkBase {ps : Map ProjData} {k : Str} (h : k ∈ pkBase ps) :
    k = kProjectId ∨ k = kCost ∨ k = kName ∨ k = kCategory ∨ k = kTarget := by
  unfold pkBase at h
  simp only [List.mem_append, List.mem_cons, List.not_mem_nil, or_false, mem_optKey] at h
  rcases h with (((h | h) | ⟨_, h⟩) | ⟨_, h⟩) | ⟨_, h⟩
  · exact Or.inl h
  · exact Or.inr (Or.inl h)
  · exact Or.inr (Or.inr (Or.inl h))
  · exact Or.inr (Or.inr (Or.inr (Or.inl h)))
  · exact Or.inr (Or.inr (Or.inr (Or.inr h)))

theorem mem_projectKeys {ps : Map ProjData} {k : Str} :
    k ∈ projectKeys ps ↔ k ∈ pkBase ps ∨ ∃ p ∈ ps, k ∈ keysOf p.2.md :=
  mem_foldl_addKeys (fun p : Str × ProjData => keysOf p.2.md) k ps (pkBase ps)

theorem projectKeys_head (ps : Map ProjData) : ∃ t, projectKeys ps = kProjectId :: kCost :: t := by
  obtain ⟨t, ht⟩ := foldl_addKeys_prefix (fun p : Str × ProjData => keysOf p.2.md) ps (pkBase ps)
  exact ⟨_, ht.trans (List.append_assoc [kProjectId, kCost] _ t)⟩

theorem pid_mem_projectKeys (ps : Map ProjData) : kProjectId ∈ projectKeys ps := by
  obtain ⟨t, ht⟩ := projectKeys_head ps
  rw [ht]
  exact List.mem_cons_self

theorem cost_mem_projectKeys (ps : Map ProjData) : kCost ∈ projectKeys ps := by
  obtain ⟨t, ht⟩ := projectKeys_head ps
  rw [ht]
  exact List.mem_cons_of_mem _ List.mem_cons_self

theorem category_mem_projectKeys {ps : Map ProjData} {np : Str × ProjData} (hm : np ∈ ps) (hc : np.2.cats ≠ []) :
    kCategory ∈ projectKeys ps := by
  have : ps.any (fun p => !p.2.cats.isEmpty) = true :=
    List.any_eq_true.mpr ⟨np, hm, by rwa [Bool.not_eq_true', List.isEmpty_eq_false_iff]⟩
  refine mem_projectKeys.mpr (Or.inl ?_)
  unfold pkBase
  exact List.mem_append_left _ (List.mem_append_right _ (mem_optKey.mpr ⟨this, rfl⟩))

theorem target_mem_projectKeys {ps : Map ProjData} {np : Str × ProjData} (hm : np ∈ ps) (hc : np.2.targets ≠ []) :
    kTarget ∈ projectKeys ps := by
  have : ps.any (fun p => !p.2.targets.isEmpty) = true :=
    List.any_eq_true.mpr ⟨np, hm, by rwa [Bool.not_eq_true', List.isEmpty_eq_false_iff]⟩
  refine mem_projectKeys.mpr (Or.inl ?_)
  unfold pkBase
  exact List.mem_append_right _ (mem_optKey.mpr ⟨this, rfl⟩)

/-- what the header of a written PROJECTS block satisfies relative to one of its projects -/
structure GoodHeader (K : List Str) (np : Str × ProjData) : Prop where
  stripped : ∀ k ∈ K, strip k = k
  cat : ∀ k ∈ K, isCatKey k = true → k = kCategory
  tgt : ∀ k ∈ K, isTgtKey k = true → k = kTarget
  head : ∃ t, K = kProjectId :: t
  cost : kCost ∈ K
  mdKeys : ∀ k ∈ keysOf np.2.md, k ∈ K
  catMem : np.2.cats ≠ [] → kCategory ∈ K
  tgtMem : np.2.targets ≠ [] → kTarget ∈ K

theorem projectKeys_facts {ps : Map ProjData} (hw : ∀ np ∈ ps, WFProject np) {k : Str} (hk : k ∈ projectKeys ps) :
    strip k = k ∧ (isCatKey k = true → k = kCategory) ∧ (isTgtKey k = true → k = kTarget) := by
  rcases mem_projectKeys.mp hk with h | ⟨p, hp, h⟩
  · rcases mem_pkBase h with h | h | h | h | h <;> subst h <;> decide +kernel
  · obtain ⟨kv, hkv, rfl⟩ := mem_keysOf_iff.mp h
    have := (hw p hp).md.keys kv hkv
    rw [reservedProjKey_eq, Bool.or_eq_false_iff] at this
    exact ⟨this.1, fun hc => Bool.noConfusion (this.2.1.symm.trans hc), fun hc => Bool.noConfusion (this.2.2.symm.trans hc)⟩

theorem goodHeader_projectKeys {ps : Map ProjData} (hw : ∀ np ∈ ps, WFProject np) {np : Str × ProjData} (hm : np ∈ ps) :
    GoodHeader (projectKeys ps) np where
  stripped := fun k hk => (projectKeys_facts hw hk).1
  cat := fun k hk => (projectKeys_facts hw hk).2.1
  tgt := fun k hk => (projectKeys_facts hw hk).2.2
  head := by obtain ⟨t, ht⟩ := projectKeys_head ps; exact ⟨_, ht⟩
  cost := cost_mem_projectKeys ps
  mdKeys := fun k hk => mem_projectKeys.mpr (Or.inr ⟨np, hm, hk⟩)
  catMem := category_mem_projectKeys hm
  tgtMem := target_mem_projectKeys hm

/-! ### one PROJECTS row -/

theorem aget_normProj (np : Str × ProjData) (k : Str) :
    aget k (normProj np).2.md =
      if k = kProjectId then some np.1 else if k = kCost then some (showRat np.2.cost) else aget k np.2.md := by
  rw [normProj, aget_ains, aget_ains]

/-- outside the two set-valued columns the writer's cell is the lookup in the normalised metadata -/
theorem projectCell_other (np : Str × ProjData) {k : Str} (h1 : k ≠ kCategory) (h2 : k ≠ kTarget) :
    projectCell np.1 np.2 k = aget k (normProj np).2.md := by
  rw [projectCell, aget_normProj, if_neg h1, if_neg h2]

theorem projectCell_category (n : Str) {p : ProjData} (hr : aget kCategory p.md = none) :
    projectCell n p kCategory = optJoin p.cats := by
  rw [projectCell, if_neg (by decide), if_neg (by decide), if_pos rfl, optJoin]
  split
  · exact hr
  · rfl

theorem projectCell_target (n : Str) {p : ProjData} (hr : aget kTarget p.md = none) :
    projectCell n p kTarget = optJoin p.targets := by
  rw [projectCell, if_neg (by decide), if_neg (by decide), if_neg (by decide), if_pos rfl, optJoin]
  split
  · exact hr
  · rfl

theorem projectCell_clean {np : Str × ProjData} (hw : WFProject np) {k v : Str} (hk : reservedProjKey k = false)
    (h : projectCell np.1 np.2 k = some v) : CleanCell v := by
  have h1 : k ≠ kCategory := fun e => absurd (e ▸ hk) (by decide)
  have h2 : k ≠ kTarget := fun e => absurd (e ▸ hk) (by decide)
  rw [projectCell_other np h1 h2, aget_normProj] at h
  split at h
  · exact Option.some.inj h ▸ ⟨hw.name.stripped, hw.name.notNone⟩
  · split at h
    · exact Option.some.inj h ▸ (showRat_clean _)
    · exact clean_of_aget hw.md h

def pcell (np : Str × ProjData) (k : Str) : Str := cellOr (projectCell np.1 np.2 k)

theorem projRow_md {K : List Str} {np : Str × ProjData} (hK : GoodHeader K np) (hw : WFProject np) :
    mapOfPairs (pairsOf K (mdCell (pcell np))) = (normProj np).2.md := by
  refine map_ext (sorted_mapOfPairs _) (sorted_ains _ _ _ (sorted_ains _ _ _ (sorted_of_sortedKeys hw.md.sorted))) (fun k => ?_)
  rw [aget_mapOfPairs_pairsOf, mdCell, ← reservedProjKey_eq]
  by_cases hr : reservedProjKey k = true
  · -- a categories / targets column is no metadata, on either side
    rw [if_pos hr, ite_self, aget_normProj, if_neg (fun e => absurd (e ▸ hr) (by decide)),
      if_neg (fun e => absurd (e ▸ hr) (by decide)), aget_reserved_none hw.md hr]
  · have hr' := (Bool.not_eq_true _).mp hr
    rw [if_neg hr, pcell, readCell_cellOr (fun v => projectCell_clean hw hr'),
      projectCell_other np (fun e => absurd (e ▸ hr') (by decide)) (fun e => absurd (e ▸ hr') (by decide))]
    split
    · rfl
    · -- every key of the normalised metadata is a column
      rename_i hk
      refine (aget_none_of_not_mem k _ (fun hm => hk ?_)).symm
      rw [normProj, mem_keysOf_ains, mem_keysOf_ains] at hm
      rcases hm with rfl | rfl | hm
      · obtain ⟨t, ht⟩ := hK.head
        exact ht ▸ List.mem_cons_self
      · exact hK.cost
      · exact hK.mdKeys k hm

theorem tags_roundtrip {l : List Str} (hw : GoodTags l) (hne : l ≠ []) : tagsOf (joinC ',' l) = l := by
  rw [tagsOf, splitOnC_joinC l hne (fun c hc => (hw.each c hc).2), stripAll_id (fun c hc => (hw.each c hc).1)]
  exact setOf_sorted l (sorted_of_sortedKeys hw.sorted)

/-- a set-valued column: the set is read from the one cell `k0` the writer puts it in -/
theorem projRow_tags {K : List Str} {c : Str → Str} {tags : List Str} (k0 : Str) (upd : Str → Bool) (hw : GoodTags tags)
    (hone : ∀ x ∈ K, upd x = true → x = k0) (hupd : upd k0 = true) (hmem : tags ≠ [] → k0 ∈ K)
    (hcell : c k0 = cellOr (optJoin tags)) :
    K.foldl (fun cs h => if (!isNone (c h) && upd h) = true then tagsOf (c h) else cs) [] = tags := by
  rw [foldl_one_key k0 (fun h => !isNone (c h) && upd h) (fun h => tagsOf (c h)) K []
    (fun x hx hu => hone x hx (Bool.and_eq_true_iff.mp hu).2), hcell, optJoin, hupd, Bool.and_true]
  by_cases hc : tags = []
  · rw [if_pos hc, cellOr, isNone_noneCell, hc]
    exact if_neg (fun h => Bool.noConfusion h.2)
  · rw [if_neg hc, cellOr, hw.notNone, if_pos ⟨hmem hc, rfl⟩]
    exact tags_roundtrip hw hc

/-- **one project row**: parsing the row the writer makes for a project yields that project (with the two
    derived columns in its metadata) -/
theorem parseProjectRow_projectRow {K : List Str} {np : Str × ProjData} (acc : Map ProjData)
    (hK : GoodHeader K np) (hw : WFProject np) (hfresh : aget np.1 acc = none) :
    parseProjectRow K (projectRow K np) acc = .ok (ains np.1 (normProj np).2 acc) := by
  have hrow : projectRow K np = K.map (pcell np) := rfl
  have hhead : headD (projectRow K np) = np.1 := by
    obtain ⟨t, ht⟩ := hK.head
    rw [ht]
    rfl
  have hcats := projRow_tags (c := pcell np) kCategory isCatKey hw.cats hK.cat rfl hK.catMem
    (congrArg cellOr (projectCell_category np.1 (aget_reserved_none hw.md rfl)))
  have htgt := projRow_tags (c := pcell np) kTarget (fun h => !isCatKey h && isTgtKey h) hw.targets
    (fun x hx hu => hK.tgt x hx (Bool.and_eq_true_iff.mp hu).2) rfl hK.tgtMem
    (congrArg cellOr (projectCell_target np.1 (aget_reserved_none hw.md rfl)))
  have hcost : aget kCost (normProj np).2.md = some (showRat np.2.cost) := by
    rw [aget_normProj, if_neg (by decide), if_pos rfl]
  unfold parseProjectRow
  rw [hhead, hrow, projRowMeta_map (pcell np) K {} hK.stripped]
  simp only
  rw [show (pairsOf K (mdCell (pcell np))).foldl (fun a e => ains e.1 e.2 a) [] = (normProj np).2.md from projRow_md hK hw,
    hcats, htgt, hcost]
  simp only [readRat_budget, hw.name.stripped, hfresh]
  rfl

/-! ## VOTES rows -/

theorem voteRowMeta_map (c : Str → Str) : ∀ (hs : List Str) (acc : Map Str), (∀ h ∈ hs, strip h = h) →
    voteRowMeta hs (hs.map c) acc =
      .ok ((pairsOf hs (fun h => readCell (c h))).foldl (fun a e => ains e.1 e.2 a) acc) := by
  intro hs
  induction hs with
  | nil => exact fun _ _ => rfl
  | cons h hs ih =>
    intro acc hst
    have ih := fun acc => ih acc (fun x hx => hst x (List.mem_cons_of_mem _ hx))
    rw [List.map_cons, voteRowMeta, hst h List.mem_cons_self, pairsOf_cons, readCell]
    by_cases h1 : isNone (c h) = true
    · rw [if_pos h1, if_pos h1]
      exact ih acc
    · rw [if_neg h1, if_neg h1]
      exact ih _

/-! ### `vote_keys` -/

theorem mem_vkBase {vs : List Vote} {k : Str} (h : k ∈ vkBase vs) :
    k = kVoterId ∨ k = kAge ∨ k = kSex ∨ k = kVotingMethod ∨ k = kVote ∨ k = kPoints := by
  unfold vkBase at h
  simp only [List.mem_append, List.mem_cons, List.not_mem_nil, or_false, mem_optKey] at h
  rcases h with ((((h | ⟨_, h⟩) | ⟨_, h⟩) | ⟨_, h⟩) | ⟨_, h⟩) | ⟨_, h⟩
  · exact Or.inl h
  · exact Or.inr (Or.inl h)
  · exact Or.inr (Or.inr (Or.inl h))
  · exact Or.inr (Or.inr (Or.inr (Or.inl h)))
  · exact Or.inr (Or.inr (Or.inr (Or.inr (Or.inl h))))
  · exact Or.inr (Or.inr (Or.inr (Or.inr (Or.inr h))))

theorem mem_voteKeys {vs : List Vote} {k : Str} :
    k ∈ voteKeys vs ↔ k ∈ vkBase vs ∨ ∃ v ∈ vs, k ∈ keysOf v.md :=
  mem_foldl_addKeys (fun v : Vote => keysOf v.md) k vs (vkBase vs)

theorem voteKeys_head (vs : List Vote) : ∃ t, voteKeys vs = kVoterId :: t := by
  obtain ⟨t, ht⟩ := foldl_addKeys_prefix (fun v : Vote => keysOf v.md) vs (vkBase vs)
  exact ⟨_, ht.trans (List.append_assoc [kVoterId] _ t)⟩

theorem vote_mem_voteKeys {vs : List Vote} {v : Vote} (hm : v ∈ vs) : kVote ∈ voteKeys vs := by
  have : (!vs.isEmpty) = true := by
    rw [Bool.not_eq_true', List.isEmpty_eq_false_iff]
    exact List.ne_nil_of_mem hm
  refine mem_voteKeys.mpr (Or.inl ?_)
  unfold vkBase
  exact List.mem_append_left _ (List.mem_append_right _ (mem_optKey.mpr ⟨this, rfl⟩))

theorem points_mem_voteKeys {vs : List Vote} {v : Vote} (hm : v ∈ vs) (hc : ballotIsCard v.ballot = true) :
    kPoints ∈ voteKeys vs := by
  refine mem_voteKeys.mpr (Or.inl ?_)
  unfold vkBase
  exact List.mem_append_right _ (mem_optKey.mpr ⟨List.any_eq_true.mpr ⟨v, hm, hc⟩, rfl⟩)

theorem voteKeys_stripped {vs : List Vote} (hw : ∀ v ∈ vs, WFMd v.md reservedVoteKey) :
    ∀ k ∈ voteKeys vs, strip k = k := by
  intro k hk
  rcases mem_voteKeys.mp hk with h | ⟨v, hv, h⟩
  · rcases mem_vkBase h with h | h | h | h | h | h <;> subst h <;> decide +kernel
  · obtain ⟨kv, hkv, rfl⟩ := mem_keysOf_iff.mp h
    exact ((hw v hv).keys kv hkv).1

/-- what the header of a written VOTES block satisfies relative to one of its votes -/
structure GoodVHeader (K : List Str) (v : Vote) : Prop where
  stripped : ∀ k ∈ K, strip k = k
  head : ∃ t, K = kVoterId :: t
  vote : kVote ∈ K
  points : ballotIsCard v.ballot = true → kPoints ∈ K
  mdKeys : ∀ k ∈ keysOf v.md, k ∈ K

theorem goodVHeader_voteKeys {vs : List Vote} (hw : ∀ v ∈ vs, WFMd v.md reservedVoteKey) {v : Vote} (hm : v ∈ vs) :
    GoodVHeader (voteKeys vs) v where
  stripped := voteKeys_stripped hw
  head := voteKeys_head vs
  vote := vote_mem_voteKeys hm
  points := points_mem_voteKeys hm
  mdKeys := fun _ hk => mem_voteKeys.mpr (Or.inr ⟨v, hm, hk⟩)

/-! ### one VOTES row -/

theorem voteCell_vote (i : Nat) (v : Vote) : voteCell i v kVote = some (joinC ',' (ballotNames v.ballot)) := by
  rw [voteCell, if_neg (by decide), if_pos rfl]

theorem voteCell_points (i : Nat) (v : Vote) :
    voteCell i v kPoints = if ballotIsCard v.ballot then some (joinC ',' ((ballotPoints v.ballot).map showRat))
      else aget kPoints v.md := by
  rw [voteCell, if_neg (by decide), if_neg (by decide), if_pos rfl]

theorem aget_normVote (iv : Nat × Vote) (k : Str) :
    aget k (normVote iv).md = if k = kVoterId then some (voterId iv.1 iv.2) else aget k iv.2.md := by
  rw [normVote, aget_ains]

/-- outside `vote` and `points` the writer's cell is the lookup in the normalised metadata -/
theorem voteCell_other (iv : Nat × Vote) {k : Str} (h1 : k ≠ kVote) (h2 : k ≠ kPoints) :
    voteCell iv.1 iv.2 k = aget k (normVote iv).md := by
  rw [voteCell, aget_normVote, if_neg h1, if_neg h2]

theorem voterId_clean {iv : Nat × Vote} (hw : WFMd iv.2.md reservedVoteKey) : CleanCell (voterId iv.1 iv.2) := by
  unfold voterId
  cases h : aget kVoterId iv.2.md with
  | none => exact (showNat_clean _)
  | some s => exact clean_of_aget hw h

theorem voteCell_clean {iv : Nat × Vote} (hw : WFMd iv.2.md reservedVoteKey)
    (hn : ∀ n ∈ ballotNames iv.2.ballot, CleanName n) {k x : Str} (h : voteCell iv.1 iv.2 k = some x) :
    CleanCell x := by
  by_cases h2 : k = kVote
  · rw [h2, voteCell_vote] at h
    exact Option.some.inj h ▸ joinC_names_clean _ hn
  by_cases h3 : k = kPoints
  · rw [h3, voteCell_points] at h
    split at h
    · exact Option.some.inj h ▸ joinC_nums_clean _
    · exact clean_of_aget hw h
  rw [voteCell_other iv h2 h3, aget_normVote] at h
  split at h
  · exact Option.some.inj h ▸ voterId_clean hw
  · exact clean_of_aget hw h

def vcell (iv : Nat × Vote) (k : Str) : Str := cellOr (voteCell iv.1 iv.2 k)

/-- the dict `ballot_meta` read from a written vote row, before `vote` / `points` are popped -/
def ballotMeta (K : List Str) (iv : Nat × Vote) : Map Str :=
  mapOfPairs (pairsOf K (fun h => readCell (vcell iv h)))

/-- the dict read from a written vote row is the writer's own, restricted to the header -/
theorem aget_ballotMeta {K : List Str} {iv : Nat × Vote} (hw : WFMd iv.2.md reservedVoteKey)
    (hn : ∀ n ∈ ballotNames iv.2.ballot, CleanName n) (k : Str) :
    aget k (ballotMeta K iv) = if k ∈ K then voteCell iv.1 iv.2 k else none := by
  rw [ballotMeta, aget_mapOfPairs_pairsOf, vcell, readCell_cellOr (fun _ => voteCell_clean hw hn)]

theorem normVote_reserved_none {iv : Nat × Vote} (hw : WFMd iv.2.md reservedVoteKey) {k : Str}
    (hk : reservedVoteKey k = true) : aget k (normVote iv).md = none := by
  rw [aget_normVote, if_neg (fun e => absurd (e ▸ hk) (by decide))]
  exact aget_reserved_none hw hk

theorem sorted_normVote {iv : Nat × Vote} (h : Sorted (keysOf iv.2.md)) : Sorted (keysOf (normVote iv).md) :=
  sorted_ains _ _ _ h

theorem aget_ballotMeta_other {K : List Str} {iv : Nat × Vote} (hK : GoodVHeader K iv.2)
    (hw : WFMd iv.2.md reservedVoteKey) (hn : ∀ n ∈ ballotNames iv.2.ballot, CleanName n) {k : Str}
    (h2 : k ≠ kVote) (h3 : k ≠ kPoints) : aget k (ballotMeta K iv) = aget k (normVote iv).md := by
  rw [aget_ballotMeta hw hn, voteCell_other iv h2 h3]
  split
  · rfl
  · rename_i hk
    refine (aget_none_of_not_mem k _ (fun hm => hk ?_)).symm
    rw [normVote, mem_keysOf_ains] at hm
    rcases hm with rfl | hm
    · obtain ⟨t, ht⟩ := hK.head
      exact ht ▸ List.mem_cons_self
    · exact hK.mdKeys k hm

/-- approval / ordinal: popping `vote` leaves the voter metadata -/
theorem ballotMeta_pop_vote {K : List Str} {iv : Nat × Vote} (hK : GoodVHeader K iv.2)
    (hw : WFMd iv.2.md reservedVoteKey) (hn : ∀ n ∈ ballotNames iv.2.ballot, CleanName n)
    (hc : ballotIsCard iv.2.ballot = false) : adel kVote (ballotMeta K iv) = (normVote iv).md := by
  have sb : Sorted (keysOf (ballotMeta K iv)) := sorted_mapOfPairs _
  refine map_ext (sorted_adel _ _ sb) (sorted_normVote (sorted_of_sortedKeys hw.sorted)) (fun k => ?_)
  rw [aget_adel _ _ _ sb]
  by_cases e2 : k = kVote
  · rw [if_pos e2, e2, normVote_reserved_none hw rfl]
  · rw [if_neg e2]
    by_cases e3 : k = kPoints
    · rw [e3, aget_ballotMeta hw hn, voteCell_points, hc, normVote_reserved_none hw rfl,
        if_neg Bool.false_ne_true, aget_reserved_none hw rfl, ite_self]
    · exact aget_ballotMeta_other hK hw hn e2 e3

/-- scoring / cumulative: popping `vote` and `points` leaves the voter metadata -/
theorem ballotMeta_pop_both {K : List Str} {iv : Nat × Vote} (hK : GoodVHeader K iv.2)
    (hw : WFMd iv.2.md reservedVoteKey) (hn : ∀ n ∈ ballotNames iv.2.ballot, CleanName n) :
    adel kPoints (adel kVote (ballotMeta K iv)) = (normVote iv).md := by
  have sb : Sorted (keysOf (ballotMeta K iv)) := sorted_mapOfPairs _
  have s1 := sorted_adel kVote _ sb
  refine map_ext (sorted_adel _ _ s1) (sorted_normVote (sorted_of_sortedKeys hw.sorted)) (fun k => ?_)
  rw [aget_adel _ _ _ s1, aget_adel _ _ _ sb]
  by_cases e3 : k = kPoints
  · rw [if_pos e3, e3, normVote_reserved_none hw rfl]
  · rw [if_neg e3]
    by_cases e2 : k = kVote
    · rw [if_pos e2, e2, normVote_reserved_none hw rfl]
    · rw [if_neg e2]
      exact aget_ballotMeta_other hK hw hn e2 e3

theorem checkNames_ok (ps : Map ProjData) : ∀ (l : List Str), (∀ n ∈ l, (aget n ps).isSome = true) →
    checkNames ps l = .ok l
  | [], _ => rfl
  | n :: ns, h => by
    obtain ⟨d, hd⟩ := Option.isSome_iff_exists.mp (h n List.mem_cons_self)
    rw [checkNames, hd]
    simp only
    rw [checkNames_ok ps ns (fun x hx => h x (List.mem_cons_of_mem _ hx))]

theorem decodeCard_ok (ps : Map ProjData) : ∀ (m : List (Str × Rat)), (∀ n ∈ keysOf m, (aget n ps).isSome = true) →
    decodeCard ps (keysOf m) ((m.map Prod.snd).map showRat) = .ok m
  | [], _ => rfl
  | e :: r, h => by
    obtain ⟨d, hd⟩ := Option.isSome_iff_exists.mp (h e.1 List.mem_cons_self)
    rw [keysOf_cons, List.map_cons, List.map_cons, decodeCard, (showRat_clean e.2).1, readRat_showRat]
    simp only
    rw [hd]
    simp only
    rw [decodeCard_ok ps r (fun x hx => h x (List.mem_cons_of_mem _ hx))]

theorem vtName_cases (vt : VoteType) :
    (vt = .approval ∧ vt.name = s!!"approval") ∨ (vt = .cumulative ∧ vt.name = s!!"cumulative") ∨
    (vt = .scoring ∧ vt.name = s!!"scoring") ∨ (vt = .ordinal ∧ vt.name = s!!"ordinal") := by
  cases vt
  · exact Or.inl ⟨rfl, rfl⟩
  · exact Or.inr (Or.inl ⟨rfl, rfl⟩)
  · exact Or.inr (Or.inr (Or.inl ⟨rfl, rfl⟩))
  · exact Or.inr (Or.inr (Or.inr ⟨rfl, rfl⟩))

/-- **one vote row**: parsing the row the writer makes for a ballot yields that ballot with its metadata
    (plus the `voter_id` the writer filled in) -/
theorem parseVoteRow_voteRow {K : List Str} {iv : Nat × Vote} {vt : VoteType} {md : Map Str} {ps ps' : Map ProjData}
    (hK : GoodVHeader K iv.2) (hw : WFVote vt ps iv) (hvt : aget kVoteType md = some vt.name)
    (hps : ∀ n, (aget n ps).isSome = true → (aget n ps').isSome = true ∧ CleanName n) :
    parseVoteRow K (voteRow K iv) md ps' = .ok (normVote iv) := by
  have hrow : voteRow K iv = K.map (vcell iv) := rfl
  have hbm : voteRowMeta K (K.map (vcell iv)) [] = .ok (ballotMeta K iv) := voteRowMeta_map (vcell iv) K [] hK.stripped
  -- the names on the ballot are names of projects, hence clean and known to the parser
  have hnames : ∀ l, ballotNames iv.2.ballot = l → (∀ n ∈ l, (aget n ps).isSome = true) →
      (∀ n ∈ ballotNames iv.2.ballot, CleanName n) ∧
      aget kVote (ballotMeta K iv) = some (joinC ',' l) ∧ checkNames ps' (splitList (joinC ',' l)) = .ok l := by
    intro l hl hmem
    have hn : ∀ n ∈ ballotNames iv.2.ballot, CleanName n := hl ▸ fun n h => (hps n (hmem n h)).2
    refine ⟨hn, ?_, ?_⟩
    · rw [aget_ballotMeta hw.md hn, if_pos hK.vote, voteCell_vote, hl]
    · rw [splitList_joinC l (fun n h => (hps n (hmem n h)).2.ne) (fun n h => (hps n (hmem n h)).2.noComma)]
      exact checkNames_ok ps' l (fun n h => (hps n (hmem n h)).1)
  unfold parseVoteRow
  rw [hrow, hbm]
  simp only [hvt]
  have hb := hw.ballot
  cases hbal : iv.2.ballot with
  | app s =>
    rw [hbal] at hb
    obtain ⟨rfl, hsorted, hmem⟩ := hb
    obtain ⟨hn, hv, hck⟩ := hnames s (by rw [hbal]; rfl) hmem
    rw [show VoteType.approval.name = s!!"approval" from rfl, if_pos rfl, hv]
    simp only
    rw [hck]
    simp only
    rw [setOf_sorted s (sorted_of_sortedKeys hsorted), ballotMeta_pop_vote hK hw.md hn (by rw [hbal]; rfl), normVote, hbal]
  | ord l =>
    rw [hbal] at hb
    obtain ⟨rfl, hnd, hmem⟩ := hb
    obtain ⟨hn, hv, hck⟩ := hnames l (by rw [hbal]; rfl) hmem
    rw [show VoteType.ordinal.name = s!!"ordinal" from rfl, if_neg (by decide), if_neg (by decide), if_pos rfl, hv]
    simp only
    rw [hck]
    simp only
    rw [orderedOf_nodup l hnd, ballotMeta_pop_vote hK hw.md hn (by rw [hbal]; rfl), normVote, hbal]
  | card m =>
    rw [hbal] at hb
    obtain ⟨hty, hsorted, hmem⟩ := hb
    obtain ⟨hn, hv, hck⟩ := hnames (keysOf m) (by rw [hbal]; rfl) hmem
    have hcard : ballotIsCard iv.2.ballot = true := by rw [hbal]; rfl
    have hpts : aget kPoints (ballotMeta K iv) = some (joinC ',' ((m.map Prod.snd).map showRat)) := by
      rw [aget_ballotMeta hw.md hn, if_pos (hK.points hcard), voteCell_points, hcard, if_pos rfl, hbal]
      rfl
    have hdec : decodeCard ps' (keysOf m) (splitOnC ',' (joinC ',' ((m.map Prod.snd).map showRat))) = .ok m := by
      by_cases hm : m = []
      · subst hm; rfl
      · rw [split_points (m.map Prod.snd) (fun e => hm (List.map_eq_nil_iff.mp e))]
        exact decodeCard_ok ps' m (fun n hn => (hps n (hmem n hn)).1)
    have n1 : ¬ (vt.name = s!!"approval") := by
      rcases hty with h | h <;> subst h <;> decide
    have p2 : vt.name = s!!"scoring" ∨ vt.name = s!!"cumulative" := by
      rcases hty with h | h <;> subst h
      · exact Or.inl rfl
      · exact Or.inr rfl
    rw [if_neg n1, if_pos p2, hpts, hv]
    simp only
    rw [splitList_joinC (keysOf m) (fun n h => (hn n (by rw [hbal]; exact h)).ne)
      (fun n h => (hn n (by rw [hbal]; exact h)).noComma), hdec]
    simp only
    rw [mapOfPairs_sorted m (sorted_of_sortedKeys hsorted), ballotMeta_pop_both hK hw.md hn, normVote, hbal]

/-! ## the row loop -/

def steps : St → List (List Str) → Except PErr St
  | st, [] => .ok st
  | st, r :: rs =>
    match step st r with
    | .error e => .error e
    | .ok st' => steps st' rs

def DataRow (r : List Str) : Prop := isBlank r = false ∧ sectionOf (headD r) = 0

theorem run_cons (st : St) (row : List Str) (rest : List (List Str)) :
    run st (row :: rest) =
      if isBlank row then run st rest
      else if sectionOf (headD row) ≠ 0 then
        match rest with
        | [] => .error .stop
        | h :: rest' => run { st with sec := sectionOf (headD row), header := h } rest'
      else
        match step st row with
        | .error e => .error e
        | .ok st' => run st' rest := by
  conv_lhs => rw [run.eq_def]
  rfl

theorem run_data : ∀ (rows : List (List Str)) (st : St) (rest : List (List Str)), (∀ r ∈ rows, DataRow r) →
    run st (rows ++ rest) = match steps st rows with
      | .error e => .error e
      | .ok st' => run st' rest := by
  intro rows
  induction rows with
  | nil => exact fun _ _ _ => rfl
  | cons r rs ih =>
    intro st rest h
    have hr := h r List.mem_cons_self
    rw [List.cons_append, run_cons, steps, if_neg (by rw [hr.1]; exact Bool.false_ne_true), if_neg (not_not.mpr hr.2)]
    cases step st r with
    | error e => rfl
    | ok st' => exact ih st' rest (fun x hx => h x (List.mem_cons_of_mem _ hx))

theorem run_section (st : St) (w : Str) (h : List Str) (rest : List (List Str))
    (hb : isBlank [w] = false) (hs : sectionOf w ≠ 0) :
    run st ([w] :: h :: rest) = run { st with sec := sectionOf w, header := h } rest := by
  rw [run_cons, if_neg (by rw [hb]; exact Bool.false_ne_true), show headD [w] = w from rfl, if_pos hs]

/-! ## META -/

theorem steps_meta : ∀ (pairs : List (Str × Str)) (st : St), st.sec = 1 →
    (∀ kv ∈ pairs, strip kv.1 = kv.1 ∧ strip kv.2 = kv.2) →
    steps st (pairs.map (fun kv => [kv.1, kv.2])) =
      .ok { st with md := pairs.foldl (fun m kv => ains kv.1 kv.2 m) st.md } := by
  intro pairs
  induction pairs with
  | nil => exact fun _ _ _ => rfl
  | cons kv t ih =>
    intro st hsec h
    have hk := h kv List.mem_cons_self
    rw [List.map_cons, steps, step, if_pos hsec]
    simp only [hk.1, hk.2]
    exact ih _ hsec (fun x hx => h x (List.mem_cons_of_mem _ hx))

/-! ### lookups in the written META block -/

/-- what the META loop of the parser makes of the written block -/
def metaOf (e : Election) : Map Str := mapOfPairs (writeMetaPairs e)

theorem emitted_iff (e : Election) (k : Str) :
    emitted e k = true ↔ k ∈ metaHead ++ metaTail e.vtype ∧ (metaCell e k).isSome = true := by
  rw [emitted, Bool.and_eq_true, List.contains_iff_mem]

theorem mem_keysOf_metaFixed (e : Election) (k : Str) : k ∈ keysOf (metaFixed e) ↔ emitted e k = true := by
  rw [emitted_iff, mem_keysOf_iff, Option.isSome_iff_exists]
  constructor
  · rintro ⟨p, hp, rfl⟩
    exact ⟨(mem_pairsOf.mp hp).1, p.2, (mem_pairsOf.mp hp).2⟩
  · rintro ⟨hk, v, hv⟩
    exact ⟨(k, v), mem_pairsOf.mpr ⟨hk, hv⟩, rfl⟩

/-- a derived key carries the writer's value, any other key the one of `instance.md` -/
theorem aget_metaOf {e : Election} (hs : sortedKeys (keysOf e.md) = true) (k : Str) :
    aget k (metaOf e) = if emitted e k = true then metaCell e k else aget k e.md := by
  have hfilt : ∀ p, p ∈ e.md.filter (fun kv => !((metaFixed e).map Prod.fst).contains kv.1) ↔
      p ∈ e.md ∧ ¬ emitted e p.1 = true := fun p => by
    rw [List.mem_filter, Bool.not_eq_true', ← Bool.not_eq_true, List.contains_iff_mem]
    exact and_congr_right (fun _ => not_congr (mem_keysOf_metaFixed e p.1))
  have hsorted := sorted_of_sortedKeys hs
  unfold metaOf writeMetaPairs
  by_cases hem : emitted e k = true
  · rw [if_pos hem]
    obtain ⟨p, hp, rfl⟩ := mem_keysOf_iff.mp ((mem_keysOf_metaFixed e k).mpr hem)
    rw [(mem_pairsOf.mp hp).2]
    refine aget_mapOfPairs_of_mem (List.mem_append_left _ hp) (fun q hq e' => ?_)
    rcases List.mem_append.mp hq with hq | hq
    · have := (mem_pairsOf.mp hq).2
      rw [e', (mem_pairsOf.mp hp).2] at this
      exact (Option.some.inj this).symm
    · exact absurd (e' ▸ hem) ((hfilt q).mp hq).2
  · rw [if_neg hem]
    cases hv : aget k e.md with
    | some w =>
      refine aget_mapOfPairs_of_mem (List.mem_append_right _ ((hfilt (k, w)).mpr ⟨mem_of_aget hv, hem⟩))
        (fun q hq e' => ?_)
      rcases List.mem_append.mp hq with hq | hq
      · exact absurd ((mem_keysOf_metaFixed e k).mp (mem_keysOf_iff.mpr ⟨q, hq, e'⟩)) hem
      · have := aget_of_mem_sorted hsorted ((hfilt q).mp hq).1
        rw [e', hv] at this
        exact (Option.some.inj this).symm
    | none =>
      refine aget_mapOfPairs_of_not_mem (fun hm => ?_)
      obtain ⟨q, hq, rfl⟩ := mem_keysOf_iff.mp hm
      rcases List.mem_append.mp hq with hq | hq
      · exact hem ((mem_keysOf_metaFixed e q.1).mp (mem_keysOf_iff.mpr ⟨q, hq, rfl⟩))
      · exact aget_eq_none_iff.mp hv (mem_keysOf_iff.mpr ⟨q, ((hfilt q).mp hq).1, rfl⟩)

theorem mem_metaOf {e : Election} {kv : Str × Str} (h : kv ∈ metaOf e) : kv ∈ writeMetaPairs e :=
  mem_mapOfPairs h

theorem sorted_metaOf (e : Election) : Sorted (keysOf (metaOf e)) :=
  sorted_mapOfPairs _

/-! ### the writer's value for each key -/

theorem metaCell_kNumProjects (e : Election) : metaCell e kNumProjects = some (showNat e.projects.length) := by
  unfold metaCell
  rw [if_pos rfl]

theorem metaCell_kNumVotes (e : Election) : metaCell e kNumVotes = some (showNat e.votes.length) := by
  unfold metaCell
  rw [if_neg (by decide), if_pos rfl]

theorem metaCell_kBudget (e : Election) : metaCell e kBudget = some (showRat e.budget) := by
  unfold metaCell
  rw [if_neg (by decide), if_neg (by decide), if_pos rfl]

theorem metaCell_kVoteType (e : Election) : metaCell e kVoteType = some e.vtype.name := by
  unfold metaCell
  rw [if_neg (by decide), if_neg (by decide), if_neg (by decide), if_pos rfl]

theorem metaCell_kMinLength (e : Election) : metaCell e kMinLength = e.limits.minLen.map showInt := by
  unfold metaCell
  rw [if_neg (by decide), if_neg (by decide), if_neg (by decide), if_neg (by decide), if_pos rfl]

theorem metaCell_kMaxLength (e : Election) : metaCell e kMaxLength = e.limits.maxLen.map showInt := by
  unfold metaCell
  rw [if_neg (by decide), if_neg (by decide), if_neg (by decide), if_neg (by decide), if_neg (by decide), if_pos rfl]

theorem metaCell_kMinSumCost (e : Election) : metaCell e kMinSumCost = e.limits.minCost.map showRat := by
  unfold metaCell
  rw [if_neg (by decide), if_neg (by decide), if_neg (by decide), if_neg (by decide), if_neg (by decide), if_neg (by decide), if_pos rfl]

theorem metaCell_kMaxSumCost (e : Election) : metaCell e kMaxSumCost = e.limits.maxCost.map showRat := by
  unfold metaCell
  rw [if_neg (by decide), if_neg (by decide), if_neg (by decide), if_neg (by decide), if_neg (by decide), if_neg (by decide), if_neg (by decide), if_pos rfl]

theorem metaCell_kMinPoints (e : Election) : metaCell e kMinPoints = e.limits.minScore.map showRat := by
  unfold metaCell
  rw [if_neg (by decide), if_neg (by decide), if_neg (by decide), if_neg (by decide), if_neg (by decide), if_neg (by decide), if_neg (by decide), if_neg (by decide), if_pos rfl]

theorem metaCell_kMaxPoints (e : Election) : metaCell e kMaxPoints = e.limits.maxScore.map showRat := by
  unfold metaCell
  rw [if_neg (by decide), if_neg (by decide), if_neg (by decide), if_neg (by decide), if_neg (by decide), if_neg (by decide), if_neg (by decide), if_neg (by decide), if_neg (by decide), if_pos rfl]

theorem metaCell_kMinSumPoints (e : Election) : metaCell e kMinSumPoints = e.limits.minTotal.map showRat := by
  unfold metaCell
  rw [if_neg (by decide), if_neg (by decide), if_neg (by decide), if_neg (by decide), if_neg (by decide), if_neg (by decide), if_neg (by decide), if_neg (by decide), if_neg (by decide), if_neg (by decide), if_pos rfl]

theorem metaCell_kMaxSumPoints (e : Election) : metaCell e kMaxSumPoints = e.limits.maxTotal.map showRat := by
  unfold metaCell
  rw [if_neg (by decide), if_neg (by decide), if_neg (by decide), if_neg (by decide), if_neg (by decide), if_neg (by decide), if_neg (by decide), if_neg (by decide), if_neg (by decide), if_neg (by decide), if_neg (by decide), if_pos rfl]

/-- the keys the writer derives from the election itself, in the order `metaCell` tests for them -/
def derivedKeys : List Str := [kNumProjects, kNumVotes, kBudget, kVoteType] ++ limitKeys

theorem metaCell_of_not_derived (e : Election) {k : Str} (hk : k ∉ derivedKeys) :
    metaCell e k = match aget k e.md with
      | some v => some v
      | none => if k ∈ mandatoryKeys then some (kAutoFilled ++ k) else none := by
  simp only [derivedKeys, limitKeys, List.cons_append, List.nil_append, List.mem_cons, List.not_mem_nil, or_false,
    not_or] at hk
  obtain ⟨h0, h1, h2, h3, h4, h5, h6, h7, h8, h9, h10, h11⟩ := hk
  rw [metaCell, if_neg h0, if_neg h1, if_neg h2, if_neg h3, if_neg h4, if_neg h5, if_neg h6, if_neg h7, if_neg h8,
    if_neg h9, if_neg h10, if_neg h11]
  rfl

/-! ### every written META cell is clean -/

theorem vtName_clean (vt : VoteType) : CleanCell vt.name := by cases vt <;> decide +kernel

theorem autoFilled_clean : ∀ k ∈ mandatoryKeys, CleanCell (kAutoFilled ++ k) := by decide +kernel

theorem metaCell_clean {e : Election} (hw : WF e) {k v : Str} (h : metaCell e k = some v) : CleanCell v := by
  have clean_map : ∀ {α : Type} {f : α → Str}, (∀ x, CleanCell (f x)) → ∀ {o : Option α}, o.map f = some v → CleanCell v := by
    intro α f hf o h
    obtain ⟨x, _, rfl⟩ := Option.map_eq_some_iff.mp h
    exact hf x
  by_cases hk : k ∈ derivedKeys
  · simp only [derivedKeys, limitKeys, List.cons_append, List.nil_append, List.mem_cons, List.not_mem_nil,
      or_false] at hk
    rcases hk with rfl | rfl | rfl | rfl | rfl | rfl | rfl | rfl | rfl | rfl | rfl | rfl
    · exact Option.some.inj ((metaCell_kNumProjects e).symm.trans h) ▸ (showNat_clean _)
    · exact Option.some.inj ((metaCell_kNumVotes e).symm.trans h) ▸ (showNat_clean _)
    · exact Option.some.inj ((metaCell_kBudget e).symm.trans h) ▸ showRat_clean _
    · exact Option.some.inj ((metaCell_kVoteType e).symm.trans h) ▸ vtName_clean _
    · exact clean_map showInt_clean ((metaCell_kMinLength e).symm.trans h)
    · exact clean_map showInt_clean ((metaCell_kMaxLength e).symm.trans h)
    · exact clean_map showRat_clean ((metaCell_kMinSumCost e).symm.trans h)
    · exact clean_map showRat_clean ((metaCell_kMaxSumCost e).symm.trans h)
    · exact clean_map showRat_clean ((metaCell_kMinPoints e).symm.trans h)
    · exact clean_map showRat_clean ((metaCell_kMaxPoints e).symm.trans h)
    · exact clean_map showRat_clean ((metaCell_kMinSumPoints e).symm.trans h)
    · exact clean_map showRat_clean ((metaCell_kMaxSumPoints e).symm.trans h)
  · rw [metaCell_of_not_derived e hk] at h
    split at h
    · rename_i w hg
      exact Option.some.inj h ▸ clean_of_aget hw.md hg
    · split at h
      · rename_i hm
        exact Option.some.inj h ▸ autoFilled_clean k hm
      · exact nomatch h

theorem metaHead_clean : ∀ k ∈ metaHead, strip k = k ∧ sectionOf k = 0 := by decide +kernel

theorem metaTail_clean (vt : VoteType) : ∀ k ∈ metaTail vt, strip k = k ∧ sectionOf k = 0 := by
  cases vt <;> decide +kernel

theorem writeMetaPairs_clean {e : Election} (hw : WF e) :
    ∀ kv ∈ writeMetaPairs e, (strip kv.1 = kv.1 ∧ sectionOf kv.1 = 0) ∧ CleanCell kv.2 := by
  intro kv hkv
  rcases List.mem_append.mp hkv with h | h
  · obtain ⟨hk, hv⟩ := mem_pairsOf.mp h
    exact ⟨(List.mem_append.mp hk).elim (metaHead_clean _) (metaTail_clean _ _), metaCell_clean hw hv⟩
  · have hm := (List.mem_filter.mp h).1
    exact ⟨⟨(hw.md.keys kv hm).1, hw.mdNotSection kv hm⟩, hw.md.vals kv hm⟩

/-! ### the limits, the budget and the vote type read back -/

theorem irrelevant_none {vt : VoteType} {l : Limits} (h : irrelevantNone vt l = true) :
    ((metaHead ++ metaTail vt).contains kMinSumCost = false → l.minCost = none) ∧
    ((metaHead ++ metaTail vt).contains kMaxSumCost = false → l.maxCost = none) ∧
    ((metaHead ++ metaTail vt).contains kMinPoints = false → l.minScore = none) ∧
    ((metaHead ++ metaTail vt).contains kMaxPoints = false → l.maxScore = none) ∧
    ((metaHead ++ metaTail vt).contains kMinSumPoints = false → l.minTotal = none) ∧
    ((metaHead ++ metaTail vt).contains kMaxSumPoints = false → l.maxTotal = none) := by
  -- per vote type each of the six is either listed in `metaTail`, or `irrelevantNone` says it is absent
  have listed : ∀ {k : Str} {ks : List Str} {o : Prop}, ks.contains k = true → ks.contains k = false → o :=
    fun h hc => Bool.noConfusion (h.symm.trans hc)
  cases vt <;> simp only [irrelevantNone, Bool.and_eq_true, Option.isNone_iff_eq_none] at h
  · obtain ⟨⟨⟨h1, h2⟩, h3⟩, h4⟩ := h
    exact ⟨listed (by decide), listed (by decide), fun _ => h1, fun _ => h2, fun _ => h3, fun _ => h4⟩
  · obtain ⟨h1, h2⟩ := h
    exact ⟨fun _ => h1, fun _ => h2, listed (by decide), listed (by decide), listed (by decide), listed (by decide)⟩
  · obtain ⟨⟨⟨h1, h2⟩, h3⟩, h4⟩ := h
    exact ⟨fun _ => h1, fun _ => h2, listed (by decide), listed (by decide), fun _ => h3, fun _ => h4⟩
  · obtain ⟨⟨⟨⟨⟨h1, h2⟩, h3⟩, h4⟩, h5⟩, h6⟩ := h
    exact ⟨fun _ => h1, fun _ => h2, fun _ => h3, fun _ => h4, fun _ => h5, fun _ => h6⟩

theorem fixed_keys_contain (vt : VoteType) : (metaHead ++ metaTail vt).contains kBudget = true ∧
    (metaHead ++ metaTail vt).contains kVoteType = true ∧ (metaHead ++ metaTail vt).contains kMinLength = true ∧
    (metaHead ++ metaTail vt).contains kMaxLength = true := by
  have head : ∀ {k : Str}, k ∈ metaHead → (metaHead ++ metaTail vt).contains k = true :=
    fun h => List.contains_iff_mem.mpr (List.mem_append_left _ h)
  exact ⟨head (by decide), head (by decide), head (by decide), head (by decide)⟩

/-- the entry of a limit key in the written META block is the printed limit, if there is one: `WF` keeps
    `instance.md` free of the limit keys the writer does not emit -/
theorem aget_metaOf_limit {α : Type} {shw : α → Str} {e : Election} (hw : WF e) {k : Str} (hk : k ∈ limitKeys)
    (x : Option α) (hcell : metaCell e k = x.map shw)
    (hrel : (metaHead ++ metaTail e.vtype).contains k = false → x = none) : aget k (metaOf e) = x.map shw := by
  rw [aget_metaOf hw.md.sorted]
  cases x with
  | none =>
    have hem : emitted e k = false := by rw [emitted, hcell]; exact Bool.and_false _
    rw [if_neg (by rw [hem]; exact Bool.false_ne_true), hw.limitKeysFree k hk hem]
    rfl
  | some q =>
    have hc : (metaHead ++ metaTail e.vtype).contains k = true :=
      (Bool.not_eq_false _).mp (fun h => nomatch hrel h)
    rw [if_pos (by rw [emitted, hcell, hc]; rfl), hcell]

theorem optInt_limit {e : Election} (hw : WF e) {k : Str} (hk : k ∈ limitKeys) (x : Option Int)
    (hcell : metaCell e k = x.map showInt)
    (hrel : (metaHead ++ metaTail e.vtype).contains k = false → x = none) : optInt (metaOf e) k = .ok x := by
  rw [optInt, aget_metaOf_limit hw hk x hcell hrel]
  cases x with
  | none => rfl
  | some i => simp only [Option.map_some, readPyInt_showInt]

theorem optRat_limit {e : Election} (hw : WF e) {k : Str} (hk : k ∈ limitKeys) (x : Option Rat)
    (hcell : metaCell e k = x.map showRat)
    (hrel : (metaHead ++ metaTail e.vtype).contains k = false → x = none) : optRat (metaOf e) k = .ok x := by
  rw [optRat, aget_metaOf_limit hw hk x hcell hrel]
  cases x with
  | none => rfl
  | some q => simp only [Option.map_some, readRat_showRat]

theorem readLimits_metaOf {e : Election} (hw : WF e) : readLimits (metaOf e) = .ok e.limits := by
  have r := irrelevant_none hw.limitsRelevant
  have c := fixed_keys_contain e.vtype
  unfold readLimits
  rw [optInt_limit hw (by decide) _ (metaCell_kMinLength e) (fun h => nomatch c.2.2.1.symm.trans h)]
  simp only
  rw [optInt_limit hw (by decide) _ (metaCell_kMaxLength e) (fun h => nomatch c.2.2.2.symm.trans h)]
  simp only
  rw [optRat_limit hw (by decide) _ (metaCell_kMinSumCost e) r.1]
  simp only
  rw [optRat_limit hw (by decide) _ (metaCell_kMaxSumCost e) r.2.1]
  simp only
  rw [optRat_limit hw (by decide) _ (metaCell_kMinSumPoints e) r.2.2.2.2.1]
  simp only
  rw [optRat_limit hw (by decide) _ (metaCell_kMaxSumPoints e) r.2.2.2.2.2]
  simp only
  rw [optRat_limit hw (by decide) _ (metaCell_kMinPoints e) r.2.2.1]
  simp only
  rw [optRat_limit hw (by decide) _ (metaCell_kMaxPoints e) r.2.2.2.1]

theorem aget_metaOf_budget {e : Election} (hs : sortedKeys (keysOf e.md) = true) :
    aget kBudget (metaOf e) = some (showRat e.budget) := by
  rw [aget_metaOf hs, if_pos (by rw [emitted, metaCell_kBudget, (fixed_keys_contain _).1]; rfl), metaCell_kBudget]

theorem aget_metaOf_voteType {e : Election} (hs : sortedKeys (keysOf e.md) = true) :
    aget kVoteType (metaOf e) = some e.vtype.name := by
  rw [aget_metaOf hs, if_pos (by rw [emitted, metaCell_kVoteType, (fixed_keys_contain _).2.1]; rfl), metaCell_kVoteType]

theorem ofName_name (vt : VoteType) : VoteType.ofName? vt.name = some vt := by cases vt <;> decide


/-! ## the PROJECTS block -/

theorem keysOf_map_normProj (ps : Map ProjData) : keysOf (ps.map normProj) = keysOf ps := by
  rw [keysOf, List.map_map]
  rfl

theorem aget_map_normProj_isSome (n : Str) : ∀ (ps : Map ProjData),
    (aget n ps).isSome = true → (aget n (ps.map normProj)).isSome = true
  | [], h => h
  | e :: r, h => by
    rw [List.map_cons, aget_cons] at *
    split at h
    · rw [if_pos (by assumption)]
      rfl
    · rw [if_neg (by assumption)]
      exact aget_map_normProj_isSome n r h

theorem step_sec2 (st : St) (row : List Str) (h : st.sec = 2) :
    step st row = match parseProjectRow st.header row st.projects with
      | .error e => .error e
      | .ok ps => .ok { st with projects := ps } := by
  unfold step
  rw [if_neg (by rw [h]; decide), if_pos h]
  rfl

theorem steps_projects (K : List Str) : ∀ (rest done : Map ProjData) (st : St), st.sec = 2 → st.header = K →
    st.projects = done.map normProj → Sorted (keysOf (done ++ rest)) →
    (∀ np ∈ rest, WFProject np ∧ GoodHeader K np) →
    steps st (rest.map (projectRow K)) = .ok { st with projects := (done ++ rest).map normProj } := by
  intro rest
  induction rest with
  | nil =>
    intro done st _ _ hp _ _
    rw [List.append_nil, ← hp]
    rfl
  | cons np r ih =>
    intro done st hsec hhd hp hs hw
    have hnp := hw np List.mem_cons_self
    -- the next name is above all names read so far, so it is new and goes to the end
    have hlt : ∀ x ∈ keysOf (done.map normProj), strLt x np.1 = true := by
      rw [keysOf_map_normProj]
      rw [keysOf_append, keysOf_cons] at hs
      exact sorted_lt_last hs
    have hfresh : aget np.1 (done.map normProj) = none :=
      aget_none_of_not_mem _ _ (fun hm => Bool.noConfusion ((strLt_irrefl np.1).symm.trans (hlt _ hm)))
    have hstep : step st (projectRow K np) = .ok { st with projects := (done ++ [np]).map normProj } := by
      rw [step_sec2 st _ hsec, hhd, hp, parseProjectRow_projectRow _ hnp.2 hnp.1 hfresh, ains_append_last _ _ _ hlt,
        List.map_append]
      rfl
    rw [List.map_cons, steps, hstep]
    simp only
    rw [ih (done ++ [np]) { st with projects := (done ++ [np]).map normProj } hsec hhd rfl
      (by rwa [List.append_assoc, List.singleton_append])
      (fun x hx => hw x (List.mem_cons_of_mem _ hx)), List.append_assoc, List.singleton_append]

/-! ## the VOTES block -/

theorem step_sec3 (st : St) (row : List Str) (h : st.sec = 3) :
    step st row = match parseVoteRow st.header row st.md st.projects with
      | .error e => .error e
      | .ok v => .ok { st with votesRev := v :: st.votesRev } := by
  unfold step
  rw [if_neg (by rw [h]; decide), if_neg (by rw [h]; decide), if_pos h]
  rfl

theorem steps_votes (K : List Str) (vt : VoteType) (ps : Map ProjData) :
    ∀ (rest : List (Nat × Vote)) (st : St), st.sec = 3 → st.header = K →
    aget kVoteType st.md = some vt.name →
    (∀ n, (aget n ps).isSome = true → (aget n st.projects).isSome = true ∧ CleanName n) →
    (∀ iv ∈ rest, GoodVHeader K iv.2 ∧ WFVote vt ps iv) →
    steps st (rest.map (voteRow K)) = .ok { st with votesRev := (rest.map normVote).reverse ++ st.votesRev } := by
  intro rest
  induction rest with
  | nil => exact fun _ _ _ _ _ _ => rfl
  | cons iv r ih =>
    intro st hsec hhd hvt hps hw
    subst hhd
    have hiv := hw iv List.mem_cons_self
    rw [List.map_cons, steps, step_sec3 st _ hsec, parseVoteRow_voteRow hiv.1 hiv.2 hvt hps]
    simp only
    rw [ih { st with votesRev := normVote iv :: st.votesRev } hsec rfl hvt hps
      (fun x hx => hw x (List.mem_cons_of_mem _ hx)),
      List.map_cons, List.reverse_cons, List.append_assoc, List.singleton_append]

/-! ## after the loop, and the composition -/

theorem finish_written {e : Election} (hw : WF e) (st : St) (hmd : st.md = metaOf e)
    (hp : st.projects = e.projects.map normProj)
    (hv : st.votesRev = ((enumFrom 0 e.votes).map normVote).reverse) :
    finish st = .ok (norm e) := by
  unfold finish
  rw [hmd, aget_metaOf_budget hw.md.sorted]
  simp only [readRat_budget, readLimits_metaOf hw, aget_metaOf_voteType hw.md.sorted, ofName_name]
  rw [hp, hv, List.reverse_reverse, List.length_map]
  rfl

theorem enumFrom_snd {α : Type} : ∀ (l : List α) (i : Nat), (enumFrom i l).map Prod.snd = l
  | [], _ => rfl
  | x :: t, i => by rw [enumFrom, List.map_cons, enumFrom_snd t (i + 1)]

theorem mem_enumFrom_snd {α : Type} {l : List α} {i : Nat} {iv : Nat × α} (h : iv ∈ enumFrom i l) : iv.2 ∈ l := by
  rw [← enumFrom_snd l i]
  exact List.mem_map.mpr ⟨iv, h, rfl⟩

theorem exists_enumFrom {α : Type} {l : List α} (i : Nat) {v : α} (h : v ∈ l) : ∃ iv ∈ enumFrom i l, iv.2 = v := by
  rw [← enumFrom_snd l i] at h
  exact List.mem_map.mp h

theorem enumFrom_map_idx {α : Type} (g : Nat × α → α) : ∀ (l : List α) (i : Nat),
    enumFrom i ((enumFrom i l).map g) = (enumFrom i l).map (fun iv => (iv.1, g iv))
  | [], _ => rfl
  | x :: t, i => by
    rw [enumFrom, List.map_cons, enumFrom, List.map_cons, enumFrom_map_idx g t (i + 1)]

theorem length_enumFrom {α : Type} : ∀ (l : List α) (i : Nat), (enumFrom i l).length = l.length
  | [], _ => rfl
  | x :: t, i => by rw [enumFrom, List.length_cons, List.length_cons, length_enumFrom t (i + 1)]

theorem dataRow_meta {e : Election} (hw : WF e) : ∀ r ∈ writeMetaRows e, DataRow r := by
  intro r hr
  obtain ⟨kv, hkv, rfl⟩ := List.mem_map.mp hr
  exact ⟨rfl, (writeMetaPairs_clean hw kv hkv).1.2⟩

theorem dataRow_project {ps : Map ProjData} (hw : ∀ np ∈ ps, WFProject np) :
    ∀ r ∈ writeProjectRows ps, DataRow r := by
  intro r hr
  obtain ⟨np, hnp, rfl⟩ := List.mem_map.mp hr
  obtain ⟨t, ht⟩ := projectKeys_head ps
  rw [ht]
  exact ⟨rfl, (hw np hnp).name.notSection⟩

theorem dataRow_vote {vs : List Vote} {vt : VoteType} {ps : Map ProjData}
    (hw : ∀ iv ∈ enumFrom 0 vs, WFVote vt ps iv) : ∀ r ∈ writeVoteRows vs, DataRow r := by
  intro r hr
  obtain ⟨iv, hiv, rfl⟩ := List.mem_map.mp hr
  obtain ⟨t, ht⟩ := voteKeys_head vs
  -- the header has the `vote` column besides `voter_id`, so the row is not blank
  have hv : kVote ∈ voteKeys vs := vote_mem_voteKeys (mem_enumFrom_snd hiv)
  rw [ht] at hv ⊢
  obtain ⟨x, t', rfl⟩ := List.exists_cons_of_ne_nil (List.ne_nil_of_mem ((List.mem_cons.mp hv).resolve_left (by decide)))
  exact ⟨rfl, (hw iv hiv).vid⟩

/-- **round trip at row level**: the parser reads the rows the writer makes for a well-formed election as
    that election in normal form -/
theorem parseRows_writeRows {e : Election} (hw : WF e) : parseRows (writeRows e) = .ok (norm e) := by
  have hrows : writeRows e = [kMETA] :: [kKey, kValue] :: (writeMetaRows e ++ ([kPROJECTS] :: projectKeys e.projects ::
      (writeProjectRows e.projects ++ ([kVOTES] :: voteKeys e.votes :: (writeVoteRows e.votes ++ []))))) := by
    simp only [writeRows, List.append_assoc, List.cons_append, List.nil_append, List.append_nil]
  have hwmd : ∀ v ∈ e.votes, WFMd v.md reservedVoteKey := by
    intro v hv
    obtain ⟨iv, hiv, rfl⟩ := exists_enumFrom 0 hv
    exact (hw.votes iv hiv).md
  have hps : ∀ n, (aget n e.projects).isSome = true → (aget n (e.projects.map normProj)).isSome = true ∧ CleanName n :=
    fun n hn => by
      obtain ⟨d, hd⟩ := Option.isSome_iff_exists.mp hn
      exact ⟨aget_map_normProj_isSome n _ hn, cleanName_of_good (hw.projects _ (mem_of_aget hd)).name⟩
  have hvs : ∀ iv ∈ enumFrom 0 e.votes, GoodVHeader (voteKeys e.votes) iv.2 ∧ WFVote e.vtype e.projects iv :=
    fun iv hiv => ⟨goodVHeader_voteKeys hwmd (mem_enumFrom_snd hiv), hw.votes iv hiv⟩
  unfold parseRows
  rw [hrows, run_section _ kMETA _ _ (by decide) (by decide), show sectionOf kMETA = 1 by decide,
    run_data _ _ _ (dataRow_meta hw), writeMetaRows,
    steps_meta _ _ rfl (fun kv hkv => ⟨(writeMetaPairs_clean hw kv hkv).1.1, (writeMetaPairs_clean hw kv hkv).2.1⟩)]
  simp only
  rw [run_section _ kPROJECTS _ _ (by decide) (by decide), show sectionOf kPROJECTS = 2 by decide,
    run_data _ _ _ (dataRow_project hw.projects), writeProjectRows,
    steps_projects (projectKeys e.projects) e.projects [] _ rfl rfl rfl (sorted_of_sortedKeys hw.projectsSorted)
      (fun np hnp => ⟨hw.projects np hnp, goodHeader_projectKeys hw.projects hnp⟩)]
  simp only
  rw [run_section _ kVOTES _ _ (by decide) (by decide), show sectionOf kVOTES = 3 by decide,
    run_data _ _ _ (dataRow_vote hw.votes), writeVoteRows,
    steps_votes (voteKeys e.votes) e.vtype e.projects (enumFrom 0 e.votes) _ rfl rfl ?_ hps hvs]
  · exact finish_written hw _ rfl rfl (List.append_nil _)
  · exact aget_metaOf_voteType hw.md.sorted


/-! ## idempotence of the normal form -/

theorem normProj_idem {np : Str × ProjData} (h : Sorted (keysOf np.2.md)) : normProj (normProj np) = normProj np := by
  unfold normProj
  simp only
  rw [ains_pair_idem _ _ _ _ h]

theorem voterId_normVote (iv : Nat × Vote) : voterId iv.1 (normVote iv) = voterId iv.1 iv.2 := by
  have : aget kVoterId (normVote iv).md = some (voterId iv.1 iv.2) := by
    rw [aget_normVote, if_pos rfl]
  rw [voterId, this]

theorem normVote_idem {iv : Nat × Vote} (h : Sorted (keysOf iv.2.md)) : normVote (iv.1, normVote iv) = normVote iv := by
  have hv := voterId_normVote iv
  unfold normVote at hv ⊢
  simp only at hv ⊢
  rw [hv, ains_ains_same _ _ _ h]

theorem dropIf_some {α : Type} {p : α → Bool} {o : Option α} {x : α} (h : dropIf p o = some x) : o = some x := by
  cases o with
  | none => exact h
  | some y =>
    rw [dropIf] at h
    split at h
    · exact nomatch h
    · exact h

theorem dropIf_twice {α : Type} (p q : α → Bool) (o : Option α) (h : ∀ x, q x = true → p x = true) :
    dropIf q (dropIf p o) = dropIf p o := by
  cases o with
  | none => rfl
  | some y =>
    rw [dropIf]
    split
    · rfl
    · rename_i hp
      rw [dropIf, if_neg (fun hq => hp (h y hq))]

theorem dropIf_idem {α : Type} (p : α → Bool) (o : Option α) : dropIf p (dropIf p o) = dropIf p o :=
  dropIf_twice p p o (fun _ h => h)

theorem dropIf_never {α : Type} (p : α → Bool) (o : Option α) (h : ∀ x, p x = false) : dropIf p o = o := by
  cases o with
  | none => rfl
  | some y => rw [dropIf, if_neg (by rw [h y]; exact Bool.false_ne_true)]

theorem normLimits_idem (vt : VoteType) (m : Nat) (b : Rat) (l : Limits) :
    normLimits vt m b (normLimits vt m b l) = normLimits vt m b l := by
  cases vt
  · simp only [normLimits, dropIf_idem]
  · simp only [normLimits, dropIf_idem]
  · -- `scoring` has no total, so the test of `maxScore` against it never fires the second time
    simp only [normLimits, dropIf_idem]
    congr 1
    exact dropIf_never _ _ (fun x => rfl)
  · simp only [normLimits, dropIf_idem]

def LimitsLe (n l : Limits) : Prop :=
  (∀ x, n.minLen = some x → l.minLen = some x) ∧ (∀ x, n.maxLen = some x → l.maxLen = some x) ∧
  (∀ x, n.minCost = some x → l.minCost = some x) ∧ (∀ x, n.maxCost = some x → l.maxCost = some x) ∧
  (∀ x, n.minScore = some x → l.minScore = some x) ∧ (∀ x, n.maxScore = some x → l.maxScore = some x) ∧
  (∀ x, n.minTotal = some x → l.minTotal = some x) ∧ (∀ x, n.maxTotal = some x → l.maxTotal = some x)

theorem limitsLe_refl (l : Limits) : LimitsLe l l :=
  ⟨fun _ h => h, fun _ h => h, fun _ h => h, fun _ h => h, fun _ h => h, fun _ h => h, fun _ h => h, fun _ h => h⟩

/-- normalisation only ever drops limits: each field of the result is `dropIf _` of the field, the field itself,
    or `none` -/
theorem normLimits_le (vt : VoteType) (m : Nat) (b : Rat) (l : Limits) : LimitsLe (normLimits vt m b l) l := by
  have d : ∀ {α : Type} {p : α → Bool} {o : Option α} (x : α), dropIf p o = some x → o = some x := fun _ => dropIf_some
  have n : ∀ {α : Type} {o : Option α} (x : α), none = some x → o = some x := fun _ h => nomatch h
  cases vt
  · exact ⟨d, d, d, d, n, n, n, n⟩
  · exact ⟨d, d, n, n, d, d, d, fun _ h => h⟩
  · exact ⟨d, d, n, n, d, d, n, n⟩
  · exact ⟨d, d, n, n, n, n, n, n⟩

theorem norm_projects_length (e : Election) : (norm e).projects.length = e.projects.length :=
  List.length_map _
theorem norm_votes_length (e : Election) : (norm e).votes.length = e.votes.length :=
  (List.length_map _).trans (length_enumFrom _ _)

/-- the cell of a derived key depends on the election through the two counts, budget, vote type and limits,
    and a cell that is there stays when limits are added -/
theorem metaCell_derived_mono {e' e : Election} (hp : e'.projects.length = e.projects.length)
    (hv : e'.votes.length = e.votes.length) (hb : e'.budget = e.budget) (ht : e'.vtype = e.vtype)
    (hl : LimitsLe e'.limits e.limits) {k v : Str} (hk : k ∈ derivedKeys) (h : metaCell e' k = some v) :
    metaCell e k = some v := by
  have map_some_of_le : ∀ {α : Type} {f : α → Str} {o' o : Option α}, (∀ x, o' = some x → o = some x) →
      o'.map f = some v → o.map f = some v := by
    intro α f o' o hle hv
    obtain ⟨x, hx, rfl⟩ := Option.map_eq_some_iff.mp hv
    rw [hle x hx]
    rfl
  simp only [derivedKeys, limitKeys, List.cons_append, List.nil_append, List.mem_cons, List.not_mem_nil, or_false] at hk
  rcases hk with rfl | rfl | rfl | rfl | rfl | rfl | rfl | rfl | rfl | rfl | rfl | rfl
  · rwa [metaCell_kNumProjects, ← hp, ← metaCell_kNumProjects]
  · rwa [metaCell_kNumVotes, ← hv, ← metaCell_kNumVotes]
  · rwa [metaCell_kBudget, ← hb, ← metaCell_kBudget]
  · rwa [metaCell_kVoteType, ← ht, ← metaCell_kVoteType]
  · rw [metaCell_kMinLength] at h ⊢; exact map_some_of_le hl.1 h
  · rw [metaCell_kMaxLength] at h ⊢; exact map_some_of_le hl.2.1 h
  · rw [metaCell_kMinSumCost] at h ⊢; exact map_some_of_le hl.2.2.1 h
  · rw [metaCell_kMaxSumCost] at h ⊢; exact map_some_of_le hl.2.2.2.1 h
  · rw [metaCell_kMinPoints] at h ⊢; exact map_some_of_le hl.2.2.2.2.1 h
  · rw [metaCell_kMaxPoints] at h ⊢; exact map_some_of_le hl.2.2.2.2.2.1 h
  · rw [metaCell_kMinSumPoints] at h ⊢; exact map_some_of_le hl.2.2.2.2.2.2.1 h
  · rw [metaCell_kMaxSumPoints] at h ⊢; exact map_some_of_le hl.2.2.2.2.2.2.2 h

/-- a value the writer derives for the normalised election is the one it derived (and wrote) before -/
theorem metaCell_norm {e : Election} (hs : sortedKeys (keysOf e.md) = true) {k : Str}
    (hk : k ∈ metaHead ++ metaTail e.vtype) {v : Str} (hv : metaCell (norm e) k = some v) :
    aget k (metaOf e) = some v := by
  have emit : ∀ w, metaCell e k = some w → aget k (metaOf e) = some w := fun w hw => by
    rw [aget_metaOf hs, if_pos ((emitted_iff e k).mpr ⟨hk, by rw [hw]; rfl⟩), hw]
  by_cases hd : k ∈ derivedKeys
  · exact emit v (metaCell_derived_mono (norm_projects_length e) (norm_votes_length e) rfl rfl (normLimits_le _ _ _ _) hd hv)
  · rw [metaCell_of_not_derived _ hd, show (norm e).md = metaOf e from rfl] at hv
    split at hv
    · rwa [← hv]
    · -- nothing was written under `k`, so it is not a mandatory key, which the writer always fills
      rename_i hnone
      split at hv
      · rename_i hm
        have : ∃ w, metaCell e k = some w := by
          rw [metaCell_of_not_derived e hd]
          split
          · exact ⟨_, rfl⟩
          · exact ⟨_, if_pos hm⟩
        obtain ⟨w, hw⟩ := this
        exact nomatch hnone.symm.trans (emit w hw)
      · exact nomatch hv

theorem metaOf_norm {e : Election} (hs : sortedKeys (keysOf e.md) = true) : metaOf (norm e) = metaOf e := by
  refine map_ext (sorted_metaOf _) (sorted_metaOf _) (fun k => ?_)
  rw [aget_metaOf (e := norm e) (sortedKeys_of_sorted (sorted_metaOf e)) k]
  split
  · rename_i hem
    obtain ⟨h1, h2⟩ := (emitted_iff (norm e) k).mp hem
    obtain ⟨v, hv⟩ := Option.isSome_iff_exists.mp h2
    rw [hv, metaCell_norm hs h1 hv]
  · rfl

/-- **idempotence**: a second round trip changes nothing -/
theorem norm_norm {e : Election} (hw : WF e) : norm (norm e) = norm e := by
  have hmd : mapOfPairs (writeMetaPairs (norm e)) = (norm e).md := metaOf_norm hw.md.sorted
  have hproj : (norm e).projects.map normProj = (norm e).projects := by
    show (e.projects.map normProj).map normProj = e.projects.map normProj
    rw [List.map_map]
    exact List.map_congr_left (fun np hnp => normProj_idem (sorted_of_sortedKeys (hw.projects np hnp).md.sorted))
  have hvotes : (enumFrom 0 (norm e).votes).map normVote = (norm e).votes := by
    show (enumFrom 0 ((enumFrom 0 e.votes).map normVote)).map normVote = (enumFrom 0 e.votes).map normVote
    rw [enumFrom_map_idx, List.map_map]
    exact List.map_congr_left (fun iv hiv => normVote_idem (sorted_of_sortedKeys (hw.votes iv hiv).md.sorted))
  have hlim : normLimits (norm e).vtype (norm e).projects.length (norm e).budget (norm e).limits = (norm e).limits := by
    rw [norm_projects_length]
    exact normLimits_idem _ _ _ _
  conv_lhs => rw [norm, hmd, hproj, hvotes, hlim]


/-! ## the normal form of a well-formed election is well-formed -/

theorem wfProject_normProj {np : Str × ProjData} (hw : WFProject np) : WFProject (normProj np) where
  name := hw.name
  md := wfmd_ains (wfmd_ains hw.md (by decide) (by decide) (showRat_clean _))
    (by decide) (by decide) ⟨hw.name.stripped, hw.name.notNone⟩
  cats := hw.cats
  targets := hw.targets

theorem wfBallot_normProj {vt : VoteType} {ps : Map ProjData} {b : Ballot} (h : WFBallot vt ps b) :
    WFBallot vt (ps.map normProj) b := by
  cases b <;> exact ⟨h.1, h.2.1, fun n hn => aget_map_normProj_isSome n ps (h.2.2 n hn)⟩

theorem wfVote_normVote {vt : VoteType} {ps : Map ProjData} {iv : Nat × Vote} (hw : WFVote vt ps iv) :
    WFVote vt (ps.map normProj) (iv.1, normVote iv) where
  md := wfmd_ains hw.md (by decide) (by decide) (voterId_clean hw.md)
  vid := (congrArg sectionOf (voterId_normVote iv)).trans hw.vid
  ballot := wfBallot_normProj hw.ballot

theorem metaCell_norm_limitKey {e : Election}
    (hN : normLimits e.vtype e.projects.length e.budget e.limits = e.limits) {k : Str} (hk : k ∈ limitKeys) :
    metaCell (norm e) k = metaCell e k := by
  have hl : (norm e).limits = e.limits := hN
  have hd : k ∈ derivedKeys := List.mem_append_right _ hk
  exact Option.ext (fun v =>
    ⟨metaCell_derived_mono (norm_projects_length e) (norm_votes_length e) rfl rfl (hl ▸ limitsLe_refl _) hd,
     metaCell_derived_mono (norm_projects_length e).symm (norm_votes_length e).symm rfl rfl (hl ▸ limitsLe_refl _) hd⟩)

theorem wf_norm {e : Election} (hw : WF e)
    (hN : normLimits e.vtype e.projects.length e.budget e.limits = e.limits) : WF (norm e) where
  md := {
    sorted := sortedKeys_of_sorted (sorted_metaOf e)
    keys := fun kv hkv => ⟨(writeMetaPairs_clean hw kv (mem_metaOf hkv)).1.1, rfl⟩
    vals := fun kv hkv => (writeMetaPairs_clean hw kv (mem_metaOf hkv)).2 }
  mdNotSection := fun kv hkv => (writeMetaPairs_clean hw kv (mem_metaOf hkv)).1.2
  limitKeysFree := by
    intro k hk hem
    rw [emitted, metaCell_norm_limitKey hN hk] at hem
    have hem' : emitted e k = false := hem
    show aget k (metaOf e) = none
    rw [aget_metaOf hw.md.sorted, if_neg (by rw [hem']; exact Bool.false_ne_true)]
    exact hw.limitKeysFree k hk hem'
  limitsRelevant := by
    show irrelevantNone e.vtype (normLimits e.vtype e.projects.length e.budget e.limits) = true
    rw [hN]
    exact hw.limitsRelevant
  projectsSorted := by
    show sortedKeys (keysOf (e.projects.map normProj)) = true
    rw [keysOf_map_normProj]
    exact hw.projectsSorted
  projects := by
    intro np hnp
    obtain ⟨np0, h0, rfl⟩ := List.mem_map.mp hnp
    exact wfProject_normProj (hw.projects np0 h0)
  votes := by
    intro iv hiv
    have : iv ∈ enumFrom 0 ((enumFrom 0 e.votes).map normVote) := hiv
    rw [enumFrom_map_idx] at this
    obtain ⟨jv, hj, rfl⟩ := List.mem_map.mp this
    exact wfVote_normVote (hw.votes jv hj)


/-! ## `WF` is decidable -/

instance (m : Map Str) (res : Str → Bool) : Decidable (WFMd m res) :=
  decidable_of_iff (sortedKeys (keysOf m) = true ∧ (∀ kv ∈ m, strip kv.1 = kv.1 ∧ res kv.1 = false) ∧
      (∀ kv ∈ m, strip kv.2 = kv.2 ∧ isNone kv.2 = false))
    ⟨fun ⟨a, b, c⟩ => ⟨a, b, c⟩, fun h => ⟨h.sorted, h.keys, h.vals⟩⟩

instance (s : Str) : Decidable (GoodName s) :=
  decidable_of_iff (strip s = s ∧ s ≠ [] ∧ isNone s = false ∧ ',' ∉ s ∧ sectionOf s = 0)
    ⟨fun ⟨a, b, c, d, e⟩ => ⟨a, b, c, d, e⟩, fun h => ⟨h.stripped, h.ne, h.notNone, h.noComma, h.notSection⟩⟩

instance (l : List Str) : Decidable (GoodTags l) :=
  decidable_of_iff (sortedKeys l = true ∧ (∀ c ∈ l, strip c = c ∧ ',' ∉ c) ∧ isNone (joinC ',' l) = false)
    ⟨fun ⟨a, b, c⟩ => ⟨a, b, c⟩, fun h => ⟨h.sorted, h.each, h.notNone⟩⟩

instance (np : Str × ProjData) : Decidable (WFProject np) :=
  decidable_of_iff (GoodName np.1 ∧ WFMd np.2.md reservedProjKey ∧ GoodTags np.2.cats ∧ GoodTags np.2.targets)
    ⟨fun ⟨a, b, c, d⟩ => ⟨a, b, c, d⟩, fun h => ⟨h.name, h.md, h.cats, h.targets⟩⟩

instance (vt : VoteType) (ps : Map ProjData) (b : Ballot) : Decidable (WFBallot vt ps b) := by
  cases b <;> unfold WFBallot <;> exact inferInstance

instance (vt : VoteType) (ps : Map ProjData) (iv : Nat × Vote) : Decidable (WFVote vt ps iv) :=
  decidable_of_iff (WFMd iv.2.md reservedVoteKey ∧ sectionOf (voterId iv.1 iv.2) = 0 ∧ WFBallot vt ps iv.2.ballot)
    ⟨fun ⟨a, b, c⟩ => ⟨a, b, c⟩, fun h => ⟨h.md, h.vid, h.ballot⟩⟩

instance (e : Election) : Decidable (WF e) :=
  decidable_of_iff (WFMd e.md noReserved ∧ (∀ kv ∈ e.md, sectionOf kv.1 = 0) ∧
      (∀ k ∈ limitKeys, emitted e k = false → aget k e.md = none) ∧ irrelevantNone e.vtype e.limits = true ∧
      sortedKeys (keysOf e.projects) = true ∧ (∀ np ∈ e.projects, WFProject np) ∧
      (∀ iv ∈ enumFrom 0 e.votes, WFVote e.vtype e.projects iv))
    ⟨fun ⟨a, b, c, d, f, g, h⟩ => ⟨a, b, c, d, f, g, h⟩,
     fun h => ⟨h.md, h.mdNotSection, h.limitKeysFree, h.limitsRelevant, h.projectsSorted, h.projects, h.votes⟩⟩

end Pabu.Pabulib
