/-
  What every proof file needs to know about the list helpers of `PabuModel.Basic`:
  `sumOver` / `sumNat` / `costOf`, the stable insertion sort (`insertLe`, `sortLe`, `sortKey`,
  `sortIds`), `dedup`, `sublists`, `minRat` / `maxRat`, `ERat.le`; `PicksLeast`, the shape that
  `Greedy.emax` and `Phragmen.emin` share; and, first, the few facts about plain lists that these need.
-/
import PabuModel.Basic
import Mathlib.Algebra.Order.Field.Rat
import Mathlib.Data.List.Perm.Basic
import Mathlib.Data.List.Nodup
import Mathlib.Tactic.Ring
import Mathlib.Tactic.Linarith

namespace Pabu

/-! ### Plain lists and Booleans -/

theorem eq_nil_congr_mem {α : Type} {l l' : List α} (h : ∀ x, x ∈ l ↔ x ∈ l') : l = [] ↔ l' = [] := by
  simp only [List.eq_nil_iff_forall_not_mem, h]

theorem perm_eq_nil_iff {α : Type} {l₁ l₂ : List α} (h : l₁.Perm l₂) : l₁ = [] ↔ l₂ = [] :=
  eq_nil_congr_mem fun _ => h.mem_iff

theorem filter_mem_perm {α : Type} [DecidableEq α] {l₁ l₂ : List α} (h₁ : l₁.Nodup) (h₂ : l₂.Nodup) :
    (l₁.filter (fun x => decide (x ∈ l₂))).Perm (l₂.filter (fun x => decide (x ∈ l₁))) :=
  (List.perm_ext_iff_of_nodup (h₁.filter _) (h₂.filter _)).mpr fun x => by
    simp only [List.mem_filter, decide_eq_true_eq, and_comm]

theorem head_of_pairwise {α : Type} {lt : α → α → Prop} (hasym : ∀ a b, lt a b → lt b a → False) {L : List α}
    {q : α} (hL : L.Pairwise lt) (hq : q ∈ L) (hmin : ∀ p ∈ L, p ≠ q → lt q p) : ∃ r, L = q :: r := by
  cases L with
  | nil => exact nomatch hq
  | cons h r =>
    by_cases e : h = q
    · exact ⟨r, e ▸ rfl⟩
    · have hqr : q ∈ r := (List.mem_cons.mp hq).resolve_left fun e' => e e'.symm
      exact (hasym q h (hmin h List.mem_cons_self e) ((List.pairwise_cons.mp hL).1 q hqr)).elim

theorem foldl_invariant {α β : Type} (f : β → α → β) (P : β → Prop) (h : ∀ x a, P x → P (f x a)) :
    ∀ (l : List α) (x : β), P x → P (l.foldl f x)
  | [], _, hx => hx
  | a :: l, x, hx => foldl_invariant f P h l _ (h x a hx)

theorem not_or_eq_true_iff (a g : Bool) : (!a || g) = true ↔ (a = true → g = true) := by
  cases a <;> simp

theorem all_congr_mem {α : Type} (l l' : List α) (f : α → Bool) (h : ∀ x, x ∈ l ↔ x ∈ l') : l.all f = l'.all f := by
  rw [Bool.eq_iff_iff, List.all_eq_true, List.all_eq_true]
  simp only [h]

theorem any_congr_mem {α : Type} (l l' : List α) (f : α → Bool) (h : ∀ x, x ∈ l ↔ x ∈ l') : l.any f = l'.any f := by
  rw [Bool.eq_iff_iff, List.any_eq_true, List.any_eq_true]
  simp only [h]

theorem isEmpty_false_iff {α : Type} (l : List α) : (!l.isEmpty) = true ↔ l ≠ [] := by
  cases l <;> simp

theorem all_congr_of_mem {α : Type} {l : List α} {f g : α → Bool} (h : ∀ x ∈ l, f x = g x) : l.all f = l.all g := by
  induction l with
  | nil => rfl
  | cons x l ih =>
    rw [List.all_cons, List.all_cons, h x List.mem_cons_self, ih (fun y hy => h y (List.mem_cons_of_mem _ hy))]

/-! ### `sumOver`, `sumNat`, `costOf` -/

section Sums
variable {α β : Type}

@[simp] theorem sumOver_nil (f : α → Rat) : sumOver [] f = 0 := rfl

@[simp] theorem sumOver_cons (x : α) (l : List α) (f : α → Rat) :
    sumOver (x :: l) f = f x + sumOver l f := rfl

theorem sumOver_eq_sum (l : List α) (f : α → Rat) : sumOver l f = (l.map f).sum := by
  induction l with
  | nil => rfl
  | cons x l ih => simp [ih]

theorem sumOver_append (l₁ l₂ : List α) (f : α → Rat) :
    sumOver (l₁ ++ l₂) f = sumOver l₁ f + sumOver l₂ f := by
  induction l₁ with
  | nil => simp
  | cons x l ih => simp [ih, add_assoc]

theorem sumOver_map (g : α → β) (l : List α) (f : β → Rat) :
    sumOver (l.map g) f = sumOver l (fun x => f (g x)) := by
  induction l with
  | nil => rfl
  | cons x l ih => simp [ih]

theorem sumOver_congr {l : List α} {f g : α → Rat} (h : ∀ x ∈ l, f x = g x) :
    sumOver l f = sumOver l g := by
  induction l with
  | nil => rfl
  | cons x l ih =>
    simp only [sumOver_cons, h x (by simp), ih fun y hy => h y (List.mem_cons_of_mem _ hy)]

theorem sumOver_perm {l₁ l₂ : List α} (h : l₁.Perm l₂) (f : α → Rat) :
    sumOver l₁ f = sumOver l₂ f := by
  induction h with
  | nil => rfl
  | cons x _ ih => simp [ih]
  | swap x y l => simp only [sumOver_cons]; ring
  | trans _ _ ih₁ ih₂ => exact ih₁.trans ih₂

theorem sumOver_mono {l : List α} {f g : α → Rat} (h : ∀ x ∈ l, f x ≤ g x) :
    sumOver l f ≤ sumOver l g := by
  induction l with
  | nil => exact le_refl _
  | cons x l ih =>
    simp only [sumOver_cons]
    exact add_le_add (h x (by simp)) (ih fun y hy => h y (List.mem_cons_of_mem _ hy))

theorem sumOver_zero (l : List α) : sumOver l (fun _ => (0 : Rat)) = 0 := by
  induction l with
  | nil => rfl
  | cons x l ih => simp [ih]

theorem sumOver_eq_zero {l : List α} {f : α → Rat} (h : ∀ x ∈ l, f x = 0) : sumOver l f = 0 :=
  (sumOver_congr h).trans (sumOver_zero l)

theorem sumOver_nonneg {α : Type} (l : List α) (f : α → Rat) (h : ∀ x ∈ l, 0 ≤ f x) : 0 ≤ sumOver l f :=
  (sumOver_zero l).symm ▸ sumOver_mono h

theorem sumOver_add (l : List α) (f g : α → Rat) :
    sumOver l (fun x => f x + g x) = sumOver l f + sumOver l g := by
  induction l with
  | nil => simp
  | cons x l ih => simp only [sumOver_cons, ih]; ring

theorem sumOver_sub (l : List α) (f g : α → Rat) :
    sumOver l (fun x => f x - g x) = sumOver l f - sumOver l g := by
  induction l with
  | nil => simp
  | cons x l ih => simp only [sumOver_cons, ih]; ring

theorem sumOver_mul_left (c : Rat) (l : List α) (f : α → Rat) :
    sumOver l (fun x => c * f x) = c * sumOver l f := by
  induction l with
  | nil => simp
  | cons x l ih => simp only [sumOver_cons, ih]; ring

theorem sumOver_mul_right (l : List α) (f : α → Rat) (c : Rat) :
    sumOver l (fun x => f x * c) = sumOver l f * c := by
  simp only [mul_comm _ c, sumOver_mul_left]

theorem sumOver_div (l : List α) (f : α → Rat) (c : Rat) :
    sumOver l (fun x => f x / c) = sumOver l f / c := by
  simp only [div_eq_mul_inv, sumOver_mul_right]

theorem sumOver_const (l : List α) (c : Rat) : sumOver l (fun _ => c) = (l.length : Rat) * c := by
  induction l with
  | nil => simp
  | cons x l ih => simp only [sumOver_cons, ih, List.length_cons, Nat.cast_succ]; ring

theorem sumOver_replicate (n : Nat) (a : α) (f : α → Rat) :
    sumOver (List.replicate n a) f = (n : Rat) * f a := by
  induction n with
  | zero => simp
  | succ n ih => simp only [List.replicate_succ, sumOver_cons, ih, Nat.cast_succ]; ring

theorem sumOver_filter_ite (l : List α) (q : α → Bool) (f : α → Rat) :
    sumOver (l.filter q) f = sumOver l (fun x => if q x then f x else 0) := by
  induction l with
  | nil => rfl
  | cons x l ih => by_cases hq : q x = true <;> simp [hq, ih]

theorem sumOver_filter_add (l : List α) (q : α → Bool) (f : α → Rat) :
    sumOver l f = sumOver (l.filter q) f + sumOver (l.filter (fun x => !q x)) f := by
  rw [sumOver_filter_ite, sumOver_filter_ite, ← sumOver_add]
  exact sumOver_congr fun x _ => by cases q x <;> simp

theorem sumOver_swap (l : List α) (m : List β) (f : α → β → Rat) :
    sumOver l (fun a => sumOver m (fun b => f a b)) = sumOver m (fun b => sumOver l (fun a => f a b)) := by
  induction l with
  | nil => simp [sumOver_zero]
  | cons x l ih => simp only [sumOver_cons, ih, sumOver_add]

theorem sumOver_sublist_le {l₁ l₂ : List α} (h : l₁.Sublist l₂) {f : α → Rat}
    (hf : ∀ x ∈ l₂, 0 ≤ f x) : sumOver l₁ f ≤ sumOver l₂ f := by
  induction h with
  | slnil => exact le_refl _
  | cons x _ ih =>
    have := ih fun y hy => hf y (List.mem_cons_of_mem _ hy)
    have := hf x (by simp)
    simp only [sumOver_cons]; linarith
  | cons_cons x _ ih =>
    have := ih fun y hy => hf y (List.mem_cons_of_mem _ hy)
    simp only [sumOver_cons]; linarith

theorem sumOver_le_of_subset [DecidableEq α] {l₁ l₂ : List α} (hnd : l₁.Nodup) (hsub : l₁ ⊆ l₂)
    {f : α → Rat} (hf : ∀ x ∈ l₂, 0 ≤ f x) : sumOver l₁ f ≤ sumOver l₂ f := by
  obtain ⟨l, hl, hs⟩ := (List.subperm_of_subset hnd hsub)
  rw [← sumOver_perm hl f]
  exact sumOver_sublist_le hs hf

theorem le_sumOver_of_mem {l : List α} {f : α → Rat} (hf : ∀ y ∈ l, 0 ≤ f y) {x : α} (hx : x ∈ l) :
    f x ≤ sumOver l f := by
  have := sumOver_sublist_le (List.singleton_sublist.mpr hx) hf
  simpa using this

theorem sumOver_pos {l : List α} {f : α → Rat} (hl : l ≠ []) (hf : ∀ x ∈ l, 0 < f x) :
    0 < sumOver l f := by
  cases l with
  | nil => exact absurd rfl hl
  | cons x l =>
    have := sumOver_nonneg l f fun y hy => (hf y (List.mem_cons_of_mem _ hy)).le
    have := hf x (by simp)
    simp only [sumOver_cons]; linarith

@[simp] theorem sumNat_nil (f : α → Nat) : sumNat [] f = 0 := rfl

@[simp] theorem sumNat_cons (x : α) (l : List α) (f : α → Nat) :
    sumNat (x :: l) f = f x + sumNat l f := rfl

theorem sumNat_append (l₁ l₂ : List α) (f : α → Nat) :
    sumNat (l₁ ++ l₂) f = sumNat l₁ f + sumNat l₂ f := by
  induction l₁ with
  | nil => simp
  | cons x l ih => simp [ih, Nat.add_assoc]

theorem sumNat_map (g : α → β) (l : List α) (f : β → Nat) :
    sumNat (l.map g) f = sumNat l (fun x => f (g x)) := by
  induction l with
  | nil => rfl
  | cons x l ih => simp [ih]

theorem sumNat_congr {l : List α} {f g : α → Nat} (h : ∀ x ∈ l, f x = g x) :
    sumNat l f = sumNat l g := by
  induction l with
  | nil => rfl
  | cons x l ih =>
    simp only [sumNat_cons, h x (by simp), ih fun y hy => h y (List.mem_cons_of_mem _ hy)]

theorem sumNat_perm {l₁ l₂ : List α} (h : l₁.Perm l₂) (f : α → Nat) :
    sumNat l₁ f = sumNat l₂ f := by
  induction h with
  | nil => rfl
  | cons x _ ih => simp [ih]
  | swap x y l => simp only [sumNat_cons]; omega
  | trans _ _ ih₁ ih₂ => exact ih₁.trans ih₂

theorem sumNat_add (l : List α) (f g : α → Nat) :
    sumNat l (fun x => f x + g x) = sumNat l f + sumNat l g := by
  induction l with
  | nil => simp
  | cons x l ih => simp only [sumNat_cons, ih]; omega

theorem sumNat_zero (l : List α) : sumNat l (fun _ => 0) = 0 := by
  induction l with
  | nil => rfl
  | cons x l ih => simp [ih]

theorem sumNat_replicate (n : Nat) (a : α) (f : α → Nat) :
    sumNat (List.replicate n a) f = n * f a := by
  induction n with
  | zero => simp
  | succ n ih => simp only [List.replicate_succ, sumNat_cons, ih, Nat.succ_mul]; omega

theorem sumNat_cast (l : List α) (f : α → Nat) :
    ((sumNat l f : Nat) : Rat) = sumOver l (fun x => (f x : Rat)) := by
  induction l with
  | nil => simp
  | cons x l ih => simp [← ih]

theorem sumNat_flatMap_replicate (k : α → Nat) (g : α → β) (f : β → Nat) :
    ∀ l : List α, sumNat (l.flatMap fun x => List.replicate (k x) (g x)) f =
      sumNat l fun x => k x * f (g x)
  | [] => rfl
  | x :: xs => by
    rw [List.flatMap_cons, sumNat_append, sumNat_replicate, sumNat_flatMap_replicate k g f xs,
      sumNat_cons]

theorem sumOver_flatMap_replicate (k : α → Nat) (g : α → β) (f : β → Rat) :
    ∀ l : List α, sumOver (l.flatMap fun x => List.replicate (k x) (g x)) f =
      sumOver l fun x => (k x : Rat) * f (g x)
  | [] => rfl
  | x :: xs => by
    rw [List.flatMap_cons, sumOver_append, sumOver_replicate, sumOver_flatMap_replicate k g f xs,
      sumOver_cons]

theorem sumOver_range_succ (k : Nat) (f : Nat → Rat) :
    sumOver (List.range (k+1)) f = sumOver (List.range k) f + f k := by
  rw [List.range_succ, sumOver_append, sumOver_cons, sumOver_nil, add_zero]

theorem sumOver_lt_of_mem {l : List α} {f g : α → Rat} (h : ∀ x ∈ l, f x ≤ g x) {a : α}
    (ha : a ∈ l) (hlt : f a < g a) : sumOver l f < sumOver l g := by
  induction l with
  | nil => cases ha
  | cons x l ih =>
    have hl : ∀ y ∈ l, f y ≤ g y := fun y hy => h y (List.mem_cons_of_mem _ hy)
    rcases List.mem_cons.mp ha with rfl | ha
    · exact add_lt_add_of_lt_of_le hlt (sumOver_mono hl)
    · exact add_lt_add_of_le_of_lt (h x List.mem_cons_self) (ih hl ha)

theorem sumOver_natCast_mul (m : α → Nat) (c : Rat) (l : List α) :
    sumOver l (fun i => (m i : Rat) * c) = (sumNat l m : Rat) * c := by
  rw [sumOver_mul_right, sumNat_cast]

theorem length_mul_le_sumOver {l : List α} {f : α → Rat} {m : Rat} (h : ∀ x ∈ l, m ≤ f x) :
    (l.length : Rat) * m ≤ sumOver l f :=
  sumOver_const l m ▸ sumOver_mono h

theorem sumOver_indicator_length (a : α → Bool) (l : List α) :
    sumOver l (fun x => if a x = true then (1 : Rat) else 0) = ((l.filter a).length : Rat) := by
  rw [← sumOver_filter_ite, sumOver_const, mul_one]

theorem sumNat_pos (f : α → Nat) : ∀ l : List α, l ≠ [] → (∀ x ∈ l, 1 ≤ f x) → 0 < sumNat l f
  | [], h, _ => absurd rfl h
  | x :: _, _, h => Nat.lt_of_lt_of_le (h x (by simp)) (Nat.le_add_right _ _)

theorem sumOver_filter_ne_le [DecidableEq α] (f : α → Rat) (t : α) (l : List α) (h : ∀ y ∈ l, 0 ≤ f y)
    (ht : t ∈ l) : sumOver (l.filter (fun q => q != t)) f + f t ≤ sumOver l f := by
  have hmem : t ∈ l.filter (fun q => !(q != t)) := List.mem_filter.mpr ⟨ht, by simp⟩
  rw [sumOver_filter_add l (fun q => q != t) f]
  exact add_le_add (le_refl _) (le_sumOver_of_mem (fun y hy => h y (List.mem_filter.mp hy).1) hmem)

theorem sumOver_update [DecidableEq α] {l : List α} (hl : l.Nodup) {k : α} (hk : k ∈ l)
    (g : α → Rat) (c : Rat) : sumOver l (Function.update g k c) = sumOver l g - g k + c := by
  induction l with
  | nil => cases hk
  | cons x l ih =>
    obtain ⟨hx, hl⟩ := List.nodup_cons.mp hl
    rw [sumOver_cons, sumOver_cons]
    rcases List.mem_cons.mp hk with rfl | hk
    · rw [Function.update_self, sumOver_congr fun y hy => Function.update_of_ne (by rintro rfl; exact hx hy) c g]
      ring
    · rw [Function.update_of_ne (by rintro rfl; exact hx hk), ih hl hk]
      ring

theorem sumOver_range_getD (L : List Pid) (g : Pid → Rat) :
    sumOver (List.range L.length) (fun i => g (L.getD i 0)) = sumOver L g := by
  induction L with
  | nil => rfl
  | cons a L ih =>
    rw [List.length_cons, List.range_succ_eq_map, sumOver_cons, sumOver_map, sumOver_cons, ← ih]
    rfl

theorem sumOver_ite_eq [DecidableEq α] (t : α) (x : Rat) :
    ∀ {l : List α}, l.Nodup → t ∈ l → sumOver l (fun p => if t = p then x else 0) = x
  | c :: cs, hnd, h => by
    obtain ⟨hc, hcs⟩ := List.nodup_cons.mp hnd
    rw [sumOver_cons]
    rcases List.mem_cons.mp h with rfl | h
    · rw [if_pos rfl, sumOver_eq_zero fun y hy => if_neg fun hty : t = y => hc (hty ▸ hy), add_zero]
    · rw [if_neg fun htc : t = c => hc (htc ▸ h), zero_add, sumOver_ite_eq t x hcs h]

@[simp] theorem costOf_nil (c : Pid → Rat) : costOf c [] = 0 := rfl

@[simp] theorem costOf_cons (c : Pid → Rat) (p : Pid) (l : List Pid) :
    costOf c (p :: l) = c p + costOf c l := rfl

theorem costOf_append (c : Pid → Rat) (l₁ l₂ : List Pid) :
    costOf c (l₁ ++ l₂) = costOf c l₁ + costOf c l₂ := sumOver_append l₁ l₂ c

theorem costOf_snoc (c : Pid → Rat) (l : List Pid) (t : Pid) :
    costOf c (l ++ [t]) = costOf c l + c t := by
  simp [costOf_append]

theorem costOf_perm (c : Pid → Rat) {l₁ l₂ : List Pid} (h : l₁.Perm l₂) :
    costOf c l₁ = costOf c l₂ := sumOver_perm h c

theorem costOf_nonneg {c : Pid → Rat} {l : List Pid} (h : ∀ p ∈ l, 0 ≤ c p) : 0 ≤ costOf c l :=
  sumOver_nonneg l c h

end Sums

/-! ### The stable insertion sort -/

section Sorting
variable {α β : Type}

theorem sortLe_cons (le : α → α → Bool) (x : α) (l : List α) :
    sortLe le (x :: l) = insertLe le x (sortLe le l) := rfl

theorem insertLe_perm (le : α → α → Bool) (x : α) (l : List α) : (insertLe le x l).Perm (x :: l) := by
  induction l with
  | nil => exact List.Perm.refl _
  | cons y ys ih =>
    unfold insertLe
    split
    · exact List.Perm.refl _
    · exact (ih.cons y).trans (List.Perm.swap x y ys)

theorem sortLe_perm (le : α → α → Bool) (l : List α) : (sortLe le l).Perm l := by
  induction l with
  | nil => exact List.Perm.refl _
  | cons x l ih => exact (insertLe_perm le x _).trans (ih.cons x)

theorem mem_sortLe (le : α → α → Bool) {l : List α} {x : α} : x ∈ sortLe le l ↔ x ∈ l :=
  (sortLe_perm le l).mem_iff

/-- what a stable sort guarantees of two entries `a` before `b` of its result: `le a b`, and when
    the two compare equal they stand in the order `R` they had in the input -/
def StableRel (le : α → α → Bool) (R : α → α → Prop) (a b : α) : Prop :=
  le a b = true ∧ (le b a = true → R a b)

theorem StableRel.asymm {R : α → α → Prop} {le : α → α → Bool} (hR : ∀ a b, R a b → R b a → False) {a b : α}
    (h₁ : StableRel le R a b) (h₂ : StableRel le R b a) : False :=
  hR a b (h₁.2 h₂.1) (h₂.2 h₁.1)

theorem insertLe_stable {le : α → α → Bool} (R : α → α → Prop)
    (tot : ∀ a b, le a b = true ∨ le b a = true)
    (trans : ∀ a b c, le a b = true → le b c = true → le a c = true) (x : α) (l : List α) :
    (∀ y ∈ l, R x y) → l.Pairwise (StableRel le R) →
      (insertLe le x l).Pairwise (StableRel le R) := by
  induction l with
  | nil => intro _ _; simp [insertLe]
  | cons y ys ih =>
    intro hx hl
    obtain ⟨hy, hys⟩ := List.pairwise_cons.mp hl
    unfold insertLe
    by_cases h : le x y = true
    · rw [if_pos h]
      refine List.pairwise_cons.mpr ⟨fun z hz => ⟨?_, fun _ => hx z hz⟩, hl⟩
      rcases List.mem_cons.mp hz with rfl | e
      · exact h
      · exact trans _ _ _ h (hy z e).1
    · rw [if_neg h]
      refine List.pairwise_cons.mpr
        ⟨fun z hz => ?_, ih (fun z hz => hx z (List.mem_cons_of_mem _ hz)) hys⟩
      rcases List.mem_cons.mp ((insertLe_perm le x ys).mem_iff.mp hz) with rfl | e
      · exact ⟨(tot z y).resolve_left h, fun h' => absurd h' h⟩
      · exact hy z e

theorem sortLe_stable {le : α → α → Bool} (R : α → α → Prop)
    (tot : ∀ a b, le a b = true ∨ le b a = true)
    (trans : ∀ a b c, le a b = true → le b c = true → le a c = true) :
    ∀ l : List α, l.Pairwise R → (sortLe le l).Pairwise (StableRel le R)
  | [], _ => List.Pairwise.nil
  | x :: xs, h => by
    obtain ⟨hx, hxs⟩ := List.pairwise_cons.mp h
    exact insertLe_stable R tot trans x _ (fun y hy => hx y ((mem_sortLe le).mp hy))
      (sortLe_stable R tot trans xs hxs)

theorem sortLe_sorted {le : α → α → Bool}
    (tot : ∀ a b, le a b = true ∨ le b a = true)
    (trans : ∀ a b c, le a b = true → le b c = true → le a c = true) (l : List α) :
    (sortLe le l).Pairwise (fun a b => le a b = true) :=
  (sortLe_stable (fun _ _ => True) tot trans l (List.pairwise_of_forall fun _ _ => trivial)).imp
    fun h => h.1

theorem insertLe_of_le_all {le : α → α → Bool} (x : α) :
    ∀ l : List α, (∀ y ∈ l, le x y = true) → insertLe le x l = x :: l
  | [], _ => rfl
  | y :: ys, h => by unfold insertLe; rw [if_pos (h y (by simp))]

theorem sortLe_of_sorted {le : α → α → Bool} :
    ∀ l : List α, l.Pairwise (fun a b => le a b = true) → sortLe le l = l
  | [], _ => rfl
  | a :: l, h => by
    have h' := List.pairwise_cons.mp h
    rw [sortLe_cons, sortLe_of_sorted l h'.2]
    exact insertLe_of_le_all a l h'.1

theorem sortLe_unique {le : α → α → Bool}
    (tot : ∀ a b, le a b = true ∨ le b a = true)
    (trans : ∀ a b c, le a b = true → le b c = true → le a c = true)
    {l₁ l₂ : List α}
    (anti : ∀ a ∈ l₁, ∀ b ∈ l₁, le a b = true → le b a = true → a = b)
    (h : l₁.Perm l₂) : sortLe le l₁ = sortLe le l₂ := by
  refine List.Perm.eq_of_pairwise (le := fun a b => le a b = true) ?_
    (sortLe_sorted tot trans l₁) (sortLe_sorted tot trans l₂)
    ((sortLe_perm le l₁).trans (h.trans (sortLe_perm le l₂).symm))
  intro a b ha hb
  exact anti a ((mem_sortLe le).mp ha) b (h.mem_iff.mpr ((mem_sortLe le).mp hb))

/-- Two stable sorts of the same list agree on the entries on which the two comparisons agree:
    among those, both put `a` before `b` exactly when `a` is smaller, or equal and earlier in the input. -/
theorem sortLe_filter_congr {R : α → α → Prop} {le₁ le₂ : α → α → Bool} (hR : ∀ a b, R a b → R b a → False)
    (tot₁ : ∀ a b, le₁ a b = true ∨ le₁ b a = true)
    (tr₁ : ∀ a b c, le₁ a b = true → le₁ b c = true → le₁ a c = true)
    (tot₂ : ∀ a b, le₂ a b = true ∨ le₂ b a = true)
    (tr₂ : ∀ a b c, le₂ a b = true → le₂ b c = true → le₂ a c = true)
    {M : List α} (hM : M.Pairwise R) (q : α → Bool)
    (hq : ∀ a ∈ M, ∀ b ∈ M, q a = true → q b = true → le₁ a b = le₂ a b) :
    (sortLe le₁ M).filter q = (sortLe le₂ M).filter q := by
  refine List.Perm.eq_of_pairwise (le := StableRel le₂ R) (fun a b _ _ h₁ h₂ => (h₁.asymm hR h₂).elim) ?_
    ((sortLe_stable R tot₂ tr₂ M hM).filter q)
    (((sortLe_perm le₁ M).trans (sortLe_perm le₂ M).symm).filter q)
  refine List.Pairwise.imp_of_mem ?_ ((sortLe_stable R tot₁ tr₁ M hM).filter q)
  intro a b ha hb hab
  obtain ⟨ha, hqa⟩ := List.mem_filter.mp ha
  obtain ⟨hb, hqb⟩ := List.mem_filter.mp hb
  rw [mem_sortLe] at ha hb
  exact ⟨hq a ha b hb hqa hqb ▸ hab.1, fun h => hab.2 (hq b hb a ha hqb hqa ▸ h)⟩

theorem insertLe_map (f : α → β) {le : α → α → Bool} {le' : β → β → Bool}
    (h : ∀ a b, le' (f a) (f b) = le a b) (x : α) :
    ∀ l : List α, insertLe le' (f x) (l.map f) = (insertLe le x l).map f
  | [] => rfl
  | y :: ys => by
    simp only [List.map_cons, insertLe, h, insertLe_map f h x ys]
    split <;> rfl

theorem sortLe_map (f : α → β) {le : α → α → Bool} {le' : β → β → Bool}
    (h : ∀ a b, le' (f a) (f b) = le a b) :
    ∀ l : List α, sortLe le' (l.map f) = (sortLe le l).map f
  | [] => rfl
  | x :: xs => by
    rw [List.map_cons, sortLe_cons, sortLe_cons, sortLe_map f h xs, insertLe_map f h]

theorem keyLe_total (key : α → Rat) (a b : α) :
    decide (key a ≤ key b) = true ∨ decide (key b ≤ key a) = true :=
  (le_total (key a) (key b)).imp decide_eq_true decide_eq_true

theorem keyLe_trans (key : α → Rat) (a b c : α) (h₁ : decide (key a ≤ key b) = true)
    (h₂ : decide (key b ≤ key c) = true) : decide (key a ≤ key c) = true :=
  decide_eq_true (le_trans (of_decide_eq_true h₁) (of_decide_eq_true h₂))

theorem sortKey_perm (key : α → Rat) (l : List α) : (sortKey key l).Perm l := sortLe_perm _ l

theorem sortKey_sorted (key : α → Rat) (l : List α) :
    (sortKey key l).Pairwise (fun a b => key a ≤ key b) :=
  (sortLe_sorted (keyLe_total key) (keyLe_trans key) l).imp of_decide_eq_true

theorem sortKey_unique (key : α → Rat) {l₁ l₂ : List α}
    (inj : ∀ a ∈ l₁, ∀ b ∈ l₁, key a = key b → a = b) (h : l₁.Perm l₂) :
    sortKey key l₁ = sortKey key l₂ :=
  sortLe_unique (keyLe_total key) (keyLe_trans key)
    (fun a ha b hb h₁ h₂ => inj a ha b hb (le_antisymm (of_decide_eq_true h₁) (of_decide_eq_true h₂))) h

theorem sortKey_of_sorted (key : α → Rat) (l : List α)
    (h : l.Pairwise (fun a b => key a ≤ key b)) : sortKey key l = l :=
  sortLe_of_sorted l (h.imp decide_eq_true)

theorem sortLe_desc (key : α → Rat) (l : List α) :
    (sortLe (fun a b => decide (key b ≤ key a)) l).Pairwise (fun a b => key b ≤ key a) :=
  (sortLe_sorted (fun a b => keyLe_total key b a) (fun a b c h₁ h₂ => keyLe_trans key c b a h₂ h₁) l).imp
    of_decide_eq_true

theorem idLe_total (a b : Pid) : decide (a ≤ b) = true ∨ decide (b ≤ a) = true :=
  (Nat.le_total a b).imp decide_eq_true decide_eq_true

theorem idLe_trans (a b c : Pid) (h₁ : decide (a ≤ b) = true) (h₂ : decide (b ≤ c) = true) :
    decide (a ≤ c) = true :=
  decide_eq_true (Nat.le_trans (of_decide_eq_true h₁) (of_decide_eq_true h₂))

theorem sortIds_perm (l : List Pid) : (sortIds l).Perm l := sortLe_perm _ l

theorem mem_sortIds {l : List Pid} {p : Pid} : p ∈ sortIds l ↔ p ∈ l := (sortIds_perm l).mem_iff

theorem sortIds_nodup {l : List Pid} (h : l.Nodup) : (sortIds l).Nodup :=
  (sortIds_perm l).nodup_iff.mpr h

theorem sortIds_sorted (l : List Pid) : (sortIds l).Pairwise (fun a b => a ≤ b) :=
  (sortLe_sorted idLe_total idLe_trans l).imp of_decide_eq_true

theorem sortIds_unique {l₁ l₂ : List Pid} (h : l₁.Perm l₂) : sortIds l₁ = sortIds l₂ :=
  sortLe_unique idLe_total idLe_trans
    (fun _ _ _ _ h₁ h₂ => Nat.le_antisymm (of_decide_eq_true h₁) (of_decide_eq_true h₂)) h

theorem sortIds_idem (l : List Pid) : sortIds (sortIds l) = sortIds l :=
  sortIds_unique (sortIds_perm l)

@[simp] theorem sortIds_nil : sortIds [] = [] := rfl

theorem sortIds_eq_nil {l : List Pid} : sortIds l = [] ↔ l = [] :=
  ⟨fun h => List.Perm.eq_nil (h ▸ (sortIds_perm l).symm), fun h => by subst h; rfl⟩

end Sorting

/-! ### `dedup` -/

section Dedup
variable {α : Type} [BEq α]

theorem dedup_eq_nil : ∀ {l : List α}, dedup l = [] ↔ l = []
  | [] => by simp [dedup]
  | _ :: _ => by simp [dedup]

variable [LawfulBEq α]

theorem mem_dedup_iff : ∀ {l : List α} {x : α}, x ∈ dedup l ↔ x ∈ l
  | [], _ => by simp [dedup]
  | a :: l, x => by
    rw [dedup]
    by_cases hx : x = a
    · subst hx; simp
    · simp [List.mem_filter, mem_dedup_iff (l := l), hx]

theorem dedup_nodup : ∀ l : List α, (dedup l).Nodup
  | [] => by simp [dedup]
  | a :: l => by
    rw [dedup, List.nodup_cons]
    exact ⟨by simp [List.mem_filter], (dedup_nodup l).filter _⟩

theorem dedup_of_nodup : ∀ {l : List α}, l.Nodup → dedup l = l
  | [], _ => rfl
  | a :: l, h => by
    rw [List.nodup_cons] at h
    rw [dedup, dedup_of_nodup h.2, List.filter_eq_self.mpr]
    intro y hy
    simpa using fun e : y = a => h.1 (e ▸ hy)

theorem dedup_idem (l : List α) : dedup (dedup l) = dedup l := dedup_of_nodup (dedup_nodup l)

theorem dedup_perm {l l' : List α} (h : ∀ x, x ∈ l ↔ x ∈ l') : (dedup l).Perm (dedup l') :=
  (List.perm_ext_iff_of_nodup (dedup_nodup l) (dedup_nodup l')).mpr
    fun x => by rw [mem_dedup_iff, mem_dedup_iff]; exact h x

end Dedup

/-! ### `sublists` -/

section Sublists
variable {α β : Type}

theorem mem_sublists : ∀ (xs l : List α), l ∈ sublists xs ↔ l.Sublist xs
  | [], l => by simp [sublists]
  | x :: xs, l => by
    simp only [sublists, List.mem_append, List.mem_map, mem_sublists xs]
    constructor
    · rintro (h | ⟨l', h, rfl⟩)
      · exact h.cons x
      · exact h.cons_cons x
    · intro h
      cases h with
      | cons _ h => exact Or.inl h
      | cons_cons _ h => exact Or.inr ⟨_, h, rfl⟩

theorem nil_mem_sublists (xs : List α) : [] ∈ sublists xs := (mem_sublists xs []).mpr (List.nil_sublist xs)

theorem length_sublists : ∀ l : List α, (sublists l).length = 2 ^ l.length
  | [] => rfl
  | _ :: l => by simp [sublists, length_sublists l, Nat.pow_succ]; omega

theorem sublists_map (f : α → β) : ∀ l : List α, sublists (l.map f) = (sublists l).map (List.map f)
  | [] => rfl
  | x :: l => by simp [sublists, sublists_map f l, Function.comp_def]

theorem all_sublists_imp_iff (L : List α) (P : List β) (a g : List α → List β → Bool) :
    ((sublists L).all fun X => (sublists P).all fun T => !(a X T) || g X T) = true ↔
      ∀ X, X.Sublist L → ∀ T, T.Sublist P → a X T = true → g X T = true := by
  simp only [List.all_eq_true, mem_sublists, not_or_eq_true_iff]

theorem sublists_nodup : ∀ {xs : List α}, xs.Nodup → (sublists xs).Nodup
  | [], _ => by simp [sublists]
  | x :: xs, h => by
    obtain ⟨hx, hxs⟩ := List.nodup_cons.mp h
    rw [sublists, List.nodup_append]
    refine ⟨sublists_nodup hxs, (sublists_nodup hxs).map List.cons_injective, ?_⟩
    rintro a ha _ hb rfl
    obtain ⟨l', _, rfl⟩ := List.mem_map.mp hb
    exact hx (((mem_sublists xs _).mp ha).subset List.mem_cons_self)

end Sublists

/-! ### `minRat`, `maxRat` -/

theorem minRat_eq_none : ∀ {l : List Rat}, minRat l = none ↔ l = []
  | [] => by simp [minRat]
  | x :: xs => by cases h : minRat xs <;> simp [minRat, h]

theorem maxRat_eq_none : ∀ {l : List Rat}, maxRat l = none ↔ l = []
  | [] => by simp [maxRat]
  | x :: xs => by cases h : maxRat xs <;> simp [maxRat, h]

theorem minRat_some {l : List Rat} : ∀ {m : Rat}, minRat l = some m → m ∈ l ∧ ∀ x ∈ l, m ≤ x := by
  induction l with
  | nil => intro _ h; simp [minRat] at h
  | cons x xs ih =>
    intro m h
    cases hxs : minRat xs with
    | none =>
      obtain rfl : x = m := by simpa [minRat, hxs] using h
      simp [minRat_eq_none.mp hxs]
    | some y =>
      obtain ⟨hy, hle⟩ := ih hxs
      have hm : (if x ≤ y then x else y) = m := by simpa [minRat, hxs] using h
      by_cases hxy : x ≤ y
      · rw [if_pos hxy] at hm; subst hm
        exact ⟨by simp, fun z hz => by
          rcases List.mem_cons.mp hz with rfl | hz
          exacts [le_refl _, le_trans hxy (hle z hz)]⟩
      · rw [if_neg hxy] at hm; subst hm
        exact ⟨List.mem_cons_of_mem _ hy, fun z hz => by
          rcases List.mem_cons.mp hz with rfl | hz
          exacts [(not_le.mp hxy).le, hle z hz]⟩

theorem maxRat_some {l : List Rat} : ∀ {m : Rat}, maxRat l = some m → m ∈ l ∧ ∀ x ∈ l, x ≤ m := by
  induction l with
  | nil => intro _ h; simp [maxRat] at h
  | cons x xs ih =>
    intro m h
    cases hxs : maxRat xs with
    | none =>
      obtain rfl : x = m := by simpa [maxRat, hxs] using h
      simp [maxRat_eq_none.mp hxs]
    | some y =>
      obtain ⟨hy, hle⟩ := ih hxs
      have hm : (if y ≤ x then x else y) = m := by simpa [maxRat, hxs] using h
      by_cases hxy : y ≤ x
      · rw [if_pos hxy] at hm; subst hm
        exact ⟨by simp, fun z hz => by
          rcases List.mem_cons.mp hz with rfl | hz
          exacts [le_refl _, le_trans (hle z hz) hxy]⟩
      · rw [if_neg hxy] at hm; subst hm
        exact ⟨List.mem_cons_of_mem _ hy, fun z hz => by
          rcases List.mem_cons.mp hz with rfl | hz
          exacts [(not_le.mp hxy).le, hle z hz]⟩

theorem minRat_isSome {l : List Rat} (hl : l ≠ []) : ∃ m, minRat l = some m :=
  Option.ne_none_iff_exists'.mp fun h => hl (minRat_eq_none.mp h)

theorem maxRat_isSome {l : List Rat} (hl : l ≠ []) : ∃ m, maxRat l = some m :=
  Option.ne_none_iff_exists'.mp fun h => hl (maxRat_eq_none.mp h)

theorem minRat_eq_some {l : List Rat} {v : Rat} (hv : v ∈ l) (hle : ∀ x ∈ l, v ≤ x) :
    minRat l = some v := by
  obtain ⟨m, hm⟩ := minRat_isSome (List.ne_nil_of_mem hv)
  obtain ⟨hml, hmle⟩ := minRat_some hm
  rw [hm, le_antisymm (hmle v hv) (hle m hml)]

theorem maxRat_eq_some {l : List Rat} {v : Rat} (hv : v ∈ l) (hle : ∀ x ∈ l, x ≤ v) :
    maxRat l = some v := by
  obtain ⟨m, hm⟩ := maxRat_isSome (List.ne_nil_of_mem hv)
  obtain ⟨hml, hmle⟩ := maxRat_some hm
  rw [hm, le_antisymm (hle m hml) (hmle v hv)]

theorem getD_minRat_mem {l : List Rat} (hl : l ≠ []) : (minRat l).getD 0 ∈ l := by
  obtain ⟨m, hm⟩ := minRat_isSome hl
  rw [hm]
  exact (minRat_some hm).1

theorem getD_minRat_le {l : List Rat} {x : Rat} (hx : x ∈ l) : (minRat l).getD 0 ≤ x := by
  obtain ⟨m, hm⟩ := minRat_isSome (List.ne_nil_of_mem hx)
  rw [hm]
  exact (minRat_some hm).2 x hx

theorem getD_maxRat_mem {l : List Rat} (hl : l ≠ []) : (maxRat l).getD 0 ∈ l := by
  obtain ⟨m, hm⟩ := maxRat_isSome hl
  rw [hm]
  exact (maxRat_some hm).1

theorem le_getD_maxRat {l : List Rat} {x : Rat} (hx : x ∈ l) : x ≤ (maxRat l).getD 0 := by
  obtain ⟨m, hm⟩ := maxRat_isSome (List.ne_nil_of_mem hx)
  rw [hm]
  exact (maxRat_some hm).2 x hx

theorem minRat_congr {l l' : List Rat} (h : ∀ x, x ∈ l ↔ x ∈ l') : minRat l = minRat l' := by
  cases hm : minRat l' with
  | none =>
    rw [minRat_eq_none] at hm ⊢
    exact (eq_nil_congr_mem h).mpr hm
  | some m =>
    obtain ⟨hml, hle⟩ := minRat_some hm
    exact minRat_eq_some ((h m).mpr hml) fun x hx => hle x ((h x).mp hx)

theorem maxRat_congr {l l' : List Rat} (h : ∀ x, x ∈ l ↔ x ∈ l') : maxRat l = maxRat l' := by
  cases hm : maxRat l' with
  | none =>
    rw [maxRat_eq_none] at hm ⊢
    exact (eq_nil_congr_mem h).mpr hm
  | some m =>
    obtain ⟨hml, hle⟩ := maxRat_some hm
    exact maxRat_eq_some ((h m).mpr hml) fun x hx => hle x ((h x).mp hx)

theorem minRat_map {f : Rat → Rat} (hf : ∀ x y, f x ≤ f y ↔ x ≤ y) : ∀ l : List Rat,
    minRat (l.map f) = (minRat l).map f
  | [] => rfl
  | x :: xs => by
    rw [List.map_cons, minRat, minRat, minRat_map hf xs]
    cases minRat xs with
    | none => rfl
    | some y => exact congrArg some (by simp only [hf, apply_ite f])

theorem maxRat_map {f : Rat → Rat} (hf : ∀ x y, f x ≤ f y ↔ x ≤ y) : ∀ l : List Rat,
    maxRat (l.map f) = (maxRat l).map f
  | [] => rfl
  | x :: xs => by
    rw [List.map_cons, maxRat, maxRat, maxRat_map hf xs]
    cases maxRat xs with
    | none => rfl
    | some y => exact congrArg some (by simp only [hf, apply_ite f])

theorem exists_min_image {α : Type} (f : α → Rat) {l : List α} (hl : l ≠ []) :
    ∃ c ∈ l, ∀ p ∈ l, f c ≤ f p := by
  obtain ⟨m, hm⟩ := minRat_isSome (l := l.map f) (by simpa using hl)
  obtain ⟨hmem, hle⟩ := minRat_some hm
  obtain ⟨c, hc, rfl⟩ := List.mem_map.mp hmem
  exact ⟨c, hc, fun p hp => hle _ (List.mem_map_of_mem hp)⟩

theorem all_lt_of_minRat_some {l : List Rat} {c : Rat} (h : minRat l = some c) (b : Rat) :
    l.all (fun x => decide (b < x)) = decide (b < c) := by
  obtain ⟨hc, hle⟩ := minRat_some h
  rw [Bool.eq_iff_iff, List.all_eq_true]
  simp only [decide_eq_true_eq]
  exact ⟨fun hall => hall c hc, fun hlt x hx => lt_of_lt_of_le hlt (hle x hx)⟩

/-! ### `ERat.le`: `none` is +∞ -/

theorem ERat_le_refl (a : ERat) : ERat.le a a = true := by
  cases a with
  | none => rfl
  | some x => exact decide_eq_true (le_refl x)

theorem ERat_le_total (a b : ERat) : ERat.le a b = true ∨ ERat.le b a = true := by
  cases b with
  | none => left; cases a <;> rfl
  | some y =>
    cases a with
    | none => right; rfl
    | some x => exact (le_total x y).imp decide_eq_true decide_eq_true

theorem ERat_le_trans {a b c : ERat} (h₁ : ERat.le a b = true) (h₂ : ERat.le b c = true) :
    ERat.le a c = true := by
  cases c with
  | none => cases a <;> rfl
  | some z =>
    cases b with
    | none => cases h₂
    | some y =>
      cases a with
      | none => cases h₁
      | some x => exact decide_eq_true (le_trans (of_decide_eq_true h₁) (of_decide_eq_true h₂))

theorem ERat_le_antisymm {a b : ERat} (h₁ : ERat.le a b = true) (h₂ : ERat.le b a = true) : a = b := by
  cases a with
  | none => cases b with
    | none => rfl
    | some y => cases h₁
  | some x => cases b with
    | none => cases h₂
    | some y => rw [le_antisymm (of_decide_eq_true h₁) (of_decide_eq_true h₂)]

/-- `==` on `ERat` decides equality; recorded once because the search through `Option` and `Rat` is slow -/
instance : LawfulBEq ERat := inferInstance

theorem keyGe_total {α : Type} (d : α → ERat) (a b : α) : ERat.le (d b) (d a) = true ∨ ERat.le (d a) (d b) = true :=
  ERat_le_total (d b) (d a)

theorem keyGe_trans {α : Type} (d : α → ERat) (a b c : α) (h₁ : ERat.le (d b) (d a) = true)
    (h₂ : ERat.le (d c) (d b) = true) : ERat.le (d c) (d a) = true :=
  ERat_le_trans h₂ h₁

/-! ### An extremum picked from a list by a running comparison -/

section Extremum
variable {α β : Type} {r : α → α → Bool} {m : List α → α}

/-- `m` walks a list from the right and keeps the `r`-least element met so far: the shape of
    `Greedy.emax` (`r a b` = "`b ≤ a`") and of `Phragmen.emin` (`r a b` = "`a ≤ b`") -/
structure PicksLeast (r : α → α → Bool) (m : List α → α) : Prop where
  total : ∀ a b, r a b = true ∨ r b a = true
  trans : ∀ a b c, r a b = true → r b c = true → r a c = true
  single : ∀ x, m [x] = x
  cons : ∀ x y l, m (x :: y :: l) = if r x (m (y :: l)) then x else m (y :: l)

namespace PicksLeast

theorem refl (h : PicksLeast r m) (a : α) : r a a = true := (h.total a a).elim id id

theorem mem (h : PicksLeast r m) (l : List α) (hl : l ≠ []) : m l ∈ l := by
  induction l with
  | nil => exact absurd rfl hl
  | cons x xs ih =>
    cases xs with
    | nil => rw [h.single]; exact List.mem_cons_self
    | cons y l =>
      rw [h.cons]
      split
      · exact List.mem_cons_self
      · exact List.mem_cons_of_mem _ (ih (List.cons_ne_nil _ _))

theorem le (h : PicksLeast r m) (l : List α) : ∀ a ∈ l, r (m l) a = true := by
  induction l with
  | nil => exact fun _ ha => nomatch ha
  | cons x xs ih =>
    intro a ha
    cases xs with
    | nil =>
      rw [h.single, List.mem_singleton.mp ha]
      exact h.refl x
    | cons y l =>
      rw [h.cons]
      split
      next hx =>
        rcases List.mem_cons.mp ha with rfl | ha
        · exact h.refl a
        · exact h.trans _ _ _ hx (ih a ha)
      next hx =>
        rcases List.mem_cons.mp ha with rfl | ha
        · exact (h.total _ _).resolve_right hx
        · exact ih a ha

theorem unique (h : PicksLeast r m) (anti : ∀ a b, r a b = true → r b a = true → a = b) {l : List α} {a : α}
    (ha : a ∈ l) (hle : ∀ b ∈ l, r a b = true) : m l = a :=
  anti _ _ (h.le l a ha) (hle _ (h.mem l (List.ne_nil_of_mem ha)))

variable [BEq α] [LawfulBEq α]

theorem mem_filter_iff (h : PicksLeast r m) (anti : ∀ a b, r a b = true → r b a = true → a = b)
    (key : β → α) (l : List β) (t : β) :
    t ∈ l.filter (fun p => key p == m (l.map key)) ↔ t ∈ l ∧ ∀ q ∈ l, r (key t) (key q) = true := by
  rw [List.mem_filter, beq_iff_eq]
  refine and_congr_right fun ht => ⟨fun e q hq => e ▸ h.le _ _ (List.mem_map_of_mem hq), fun hle => ?_⟩
  obtain ⟨p, hp, hpe⟩ := List.mem_map.mp
    (h.mem (l.map key) fun e => List.ne_nil_of_mem ht (List.map_eq_nil_iff.mp e))
  exact anti _ _ (hpe ▸ hle p hp) (h.le _ _ (List.mem_map_of_mem ht))

theorem filter_eq_nil_iff (h : PicksLeast r m) (key : β → α) (l : List β) :
    l.filter (fun p => key p == m (l.map key)) = [] ↔ l = [] := by
  refine ⟨fun hf => by_contra fun hl => ?_, fun hl => by rw [hl]; rfl⟩
  obtain ⟨p, hp, hpe⟩ := List.mem_map.mp (h.mem (l.map key) fun e => hl (List.map_eq_nil_iff.mp e))
  exact List.ne_nil_of_mem (List.mem_filter.mpr ⟨hp, (beq_iff_eq (a := key p)).mpr hpe⟩) hf

end PicksLeast
end Extremum

end Pabu
