/-
  Bridge C04 — the regenerated leaf formulas of the primal/dual knapsack solver (Gen/C04.lean, produced from
  the current source of pabutools/rules/maxwelfare.py on every run) are the formulas of the model
  (PabuModel/MaxWelfare.lean): item efficiency, the capacity test, the incumbent update, the two pruning
  tests of `primal_dual_branch_impl`, the treatment of zero-cost projects and the candidate filter
  (positive cost and non-negative total satisfaction).
-/
import Gen.C04
import PabuModel.MaxWelfare
import Mathlib.Tactic.NormNum
namespace Pabu.Bridge.C04

/-- `KnapsackItem.efficiency` = `frac(profit, weight) if weight != 0 else 0`.  In Lean `x / 0 = 0`, so the
    model's plain quotient is this formula for every weight (in particular for the non-zero weights that
    reach the solver). -/
theorem efficiency_eq (x y : Rat) : Gen.C04.efficiency x y = x / y := by
  unfold Gen.C04.efficiency
  by_cases h : y = 0 <;> simp [h]

theorem efficiency (items : Array Knap.Item) (i : Nat) :
    Knap.pe items i = Gen.C04.efficiency (Knap.pp items i) (Knap.pw items i) :=
  (efficiency_eq _ _).symm

/-- the incumbent is replaced exactly when `profit_sum > lower_bound[0]` -/
theorem improves (P : Rat) (sol : List Nat) (inc : Knap.Inc) :
    Knap.upd P sol inc = if Gen.C04.improves P inc.1 = true then (P, some sol) else inc := by
  unfold Knap.upd Gen.C04.improves
  simp only [decide_eq_true_eq]

/-- one call of `primal_dual_branch_impl`, all tests expressed with the regenerated leaves -/
theorem pd_step (items : Array Knap.Item) (cap : Rat) (f lo b : Nat) (P W : Rat) (mid : List Nat)
    (inc : Knap.Inc) :
    Knap.pd items cap (f + 1) lo b P W mid inc =
      if Gen.C04.withinCapacity W cap = true then
        if b < items.size then
          if Gen.C04.prunes P
              (Gen.C04.upperBoundRight cap W (Gen.C04.efficiency (Knap.pp items b) (Knap.pw items b)))
              (Knap.upd P (List.range lo ++ mid) inc).1 = true then
            Knap.upd P (List.range lo ++ mid) inc
          else
            Knap.pd items cap f lo (b + 1) P W mid
              (Knap.pd items cap f lo (b + 1) (P + Knap.pp items b) (W + Knap.pw items b) (mid ++ [b])
                (Knap.upd P (List.range lo ++ mid) inc))
        else Knap.upd P (List.range lo ++ mid) inc
      else
        if lo = 0 then inc
        else if Gen.C04.prunesLeft P
            (Gen.C04.upperBoundLeft cap W
              (Gen.C04.efficiency (Knap.pp items (lo - 1)) (Knap.pw items (lo - 1)))) inc.1 = true then inc
        else
          Knap.pd items cap f (lo - 1) b P W ((lo - 1) :: mid)
            (Knap.pd items cap f (lo - 1) b (P - Knap.pp items (lo - 1)) (W - Knap.pw items (lo - 1)) mid inc) := by
  rw [← efficiency items b, ← efficiency items (lo - 1)]
  unfold Gen.C04.withinCapacity Gen.C04.prunes Gen.C04.prunesLeft Gen.C04.upperBoundRight Gen.C04.upperBoundLeft
  rw [Knap.pd]
  simp only [decide_eq_true_eq]

/-- the branch that adds items on the right (`weight_sum <= capacity`) -/
theorem pd_right (items : Array Knap.Item) (cap : Rat) (f lo b : Nat) (P W : Rat) (mid : List Nat)
    (inc : Knap.Inc) (hW : Gen.C04.withinCapacity W cap = true) (hb : b < items.size) :
    Knap.pd items cap (f + 1) lo b P W mid inc =
      if Gen.C04.prunes P
          (Gen.C04.upperBoundRight cap W (Gen.C04.efficiency (Knap.pp items b) (Knap.pw items b)))
          (Knap.upd P (List.range lo ++ mid) inc).1 = true then
        Knap.upd P (List.range lo ++ mid) inc
      else
        Knap.pd items cap f lo (b + 1) P W mid
          (Knap.pd items cap f lo (b + 1) (P + Knap.pp items b) (W + Knap.pw items b) (mid ++ [b])
            (Knap.upd P (List.range lo ++ mid) inc)) := by
  rw [pd_step, if_pos hW, if_pos hb]

/-- the branch that removes items on the left (`weight_sum > capacity`) -/
theorem pd_left (items : Array Knap.Item) (cap : Rat) (f lo b : Nat) (P W : Rat) (mid : List Nat)
    (inc : Knap.Inc) (hW : Gen.C04.withinCapacity W cap = false) (hlo : lo ≠ 0) :
    Knap.pd items cap (f + 1) lo b P W mid inc =
      if Gen.C04.prunesLeft P
          (Gen.C04.upperBoundLeft cap W
            (Gen.C04.efficiency (Knap.pp items (lo - 1)) (Knap.pw items (lo - 1)))) inc.1 = true then inc
      else
        Knap.pd items cap f (lo - 1) b P W ((lo - 1) :: mid)
          (Knap.pd items cap f (lo - 1) b (P - Knap.pp items (lo - 1)) (W - Knap.pw items (lo - 1)) mid inc) := by
  rw [pd_step, if_neg (by rw [hW]; simp), if_neg hlo]

/-- zero-cost projects: taken iff `profit > 0`; of the other free projects exactly those with `profit >= 0`
    become knapsack items (the `elif profit >= 0` of the source) -/
theorem zeroCost (I : Inst) (profit : Pid → Rat) (init enum : List Pid) :
    MaxWelfare.primalDual I profit init enum =
      (let free := enum.filter (fun p => !init.contains p)
       let zero := free.filter (fun p => Gen.C04.zeroCost (I.cost p) && Gen.C04.zeroCostTaken (profit p))
       let cands := free.filter (fun p => !Gen.C04.zeroCost (I.cost p) && Gen.C04.knapsackItem (profit p))
       let sorted := sortLe (fun a b => decide (profit b / I.cost b ≤ profit a / I.cost a)) cands
       let items : Array Knap.Item := (sorted.map (fun p => ⟨I.cost p, profit p⟩)).toArray
       let cap := I.budget - costOf I.cost (init ++ zero)
       match (Knap.solve items cap).2 with
       | none => init ++ zero
       | some idx => init ++ zero ++ idx.map (fun i => sorted.getD i 0)) := rfl

/-- the sort key of the items is their efficiency -/
theorem sortKey_efficiency (profit cost : Pid → Rat) (a b : Pid) :
    decide (profit b / cost b ≤ profit a / cost a) =
      decide (Gen.C04.efficiency (profit b) (cost b) ≤ Gen.C04.efficiency (profit a) (cost a)) := by
  rw [efficiency_eq, efficiency_eq]

example : Gen.C04.withinCapacity 1 2 = true ∧ Gen.C04.withinCapacity 3 2 = false := by
  norm_num [Gen.C04.withinCapacity]

end Pabu.Bridge.C04
