/-
  C16 — multiprofiles are faithful multisets of ballots.
  Model: PabuModel.Multi (canonical `freeze`, counter as association list, `ofList/append/extend`).
-/
import PabuProofs.Lemmas.Multi
namespace Pabu.Multi

/-- the same ballot built in another insertion order: approvals permuted; score assignments with distinct
    keys permuted; a ranking *is* its order, so only the identical ranking counts -/
def Reordered : Raw → Raw → Prop
  | .app l₁, .app l₂ => l₁.Perm l₂
  | .card l₁, .card l₂ => l₁.Perm l₂ ∧ (l₁.map Prod.fst).Nodup
  | .ord l₁, .ord l₂ => l₁ = l₂
  | _, _ => False

/-- equal frozen ballots ⇔ equal content (approved set, final score mapping, ranking): freezing neither merges
    different ballots nor separates equal ones.  This is what `==` and `hash` of frozen ballots must implement. -/
theorem freeze_eq_iff (r₁ r₂ : Raw) : freeze r₁ = freeze r₂ ↔ SameContent r₁ r₂ := by
  cases r₁ with
  | app l₁ =>
    cases r₂ with
    | app l₂ =>
      simp only [freeze, SameContent, Ballot.app.injEq]
      exact ⟨fun h x => by rw [← mem_freezeApp (l := l₁), ← mem_freezeApp (l := l₂), h], freezeApp_ext⟩
    | _ => simp [freeze, SameContent]
  | card l₁ =>
    cases r₂ with
    | card l₂ =>
      simp only [freeze, SameContent, Ballot.card.injEq]
      exact ⟨fun h k => by rw [← getScore_freezeCard, ← getScore_freezeCard, h], freezeCard_ext⟩
    | _ => simp [freeze, SameContent]
  | ord l₁ => cases r₂ <;> simp [freeze, SameContent]

theorem Reordered.sameContent {r₁ r₂ : Raw} (h : Reordered r₁ r₂) : SameContent r₁ r₂ := by
  cases r₁ with
  | app l₁ =>
    cases r₂ with
    | app l₂ => exact fun x => h.mem_iff
    | _ => exact h
  | card l₁ =>
    cases r₂ with
    | card l₂ =>
      obtain ⟨hp, hn⟩ := h
      have hn₂ : (l₂.map Prod.fst).Nodup := (hp.map Prod.fst).nodup_iff.1 hn
      exact fun k => Option.ext fun v => by
        rw [lastScore_eq_some_iff hn, lastScore_eq_some_iff hn₂, hp.mem_iff]
    | _ => exact h
  | ord l₁ =>
    cases r₂ with
    | ord l₂ => exact congrArg firstOcc h
    | _ => exact h

/-- the same content inserted in any order gives the same frozen ballot (hence the same hash key) -/
theorem freeze_perm (r₁ r₂ : Raw) (h : Reordered r₁ r₂) : freeze r₁ = freeze r₂ :=
  (freeze_eq_iff r₁ r₂).2 h.sameContent

theorem freeze_content (r : Raw) :
    match r, freeze r with
    | .app l, .app f => (∀ x, x ∈ f ↔ x ∈ l) ∧ f.Pairwise (· < ·)
    | .card l, .card f => (∀ k, getScore f k = lastScore l k) ∧ f.Pairwise (fun a b => a.1 < b.1)
    | .ord l, .ord f => f = firstOcc l
    | _, _ => False := by
  cases r with
  | app l => exact ⟨fun x => mem_freezeApp, sorted_freezeApp l⟩
  | card l => exact ⟨getScore_freezeCard l, sorted_freezeCard l⟩
  | ord l => rfl

/-- after converting any list profile and any sequence of appends / extends the multiprofile `M` reports the
    number of voters, has one entry per distinct ballot, and the multiplicity of every ballot is the number of
    voters whose frozen ballot equals it (by `freeze_eq_iff`: the voters with the same content) -/
theorem counter_history (init : List Raw) (ops : List Op) :
    Faithful (run init ops) ((init ++ votersOf ops).map freeze) := by
  have h := faithful_steps (faithful_extend faithful_nil (init.map freeze)) ops
  rwa [List.nil_append, ← List.map_append] at h

theorem counter_history_counts (init : List Raw) (ops : List Op) :
    total (run init ops) = (init ++ votersOf ops).length ∧
    (keys (run init ops)).Nodup ∧
    (∀ r, mult (run init ops) (freeze r) = countEq (freeze r) ((init ++ votersOf ops).map freeze)) ∧
    (∀ b, b ∈ keys (run init ops) ↔ ∃ r ∈ init ++ votersOf ops, freeze r = b) := by
  have h := counter_history init ops
  refine ⟨by simpa using h.total_eq, h.nodup, fun r => h.mult_eq _, fun b => ?_⟩
  rw [h.mem_iff, List.mem_map]

/-! non-vacuity: two voters with the same approvals / scores in different insertion orders, one other voter,
    an append and an extend -/
example : Reordered (.app [3, 1, 2]) (.app [2, 3, 1]) := by
  show [3, 1, 2].Perm [2, 3, 1]
  decide
example : Reordered (.card [(2, 1), (0, 5)]) (.card [(0, 5), (2, 1)]) := by
  refine ⟨?_, by decide⟩
  exact List.Perm.swap _ _ _
example : freeze (.app [3, 1, 2, 3]) = .app [1, 2, 3] := by decide
example : keys (run [.app [3, 1], .app [1, 3]] [.append (.app [2]), .extend [.app [3, 1, 1], .app []]])
    = [.app [1, 3], .app [2], .app []] := by decide
example : (run [.app [3, 1], .app [1, 3]] [.append (.app [2]), .extend [.app [3, 1, 1], .app []]]).map Prod.snd
    = [3, 1, 1] := by decide

end Pabu.Multi
