/-
  The payments recorded by an Equal-Shares run, read as payment functions of a price system
  (C12 ← C07).  Voters are a list profile: entry `i` of `List.range n`, multiplicity 1.

  * `paid L i p`      what voter `i` paid for `p` according to the record `L`
                      (money before − money after in the rounds that selected `p`; 0 if none);
  * per-condition lemmas, each by induction on `MES.Recorded`:
      `paid_nonsupporter` (C1), `paid_nonneg`, `paid_spent` (C2: start money − Σ_p paid = final
      money), `paid_total` (C3/C4: Σ_i paid i p = cost p × number of rounds that selected p),
      `paid_unselected` (C4 alone);
    `leftoverOf_eq_budSum` reads C5 off the stop condition;
  * `recorded_exact`  the assembled `Price.Exact` (plain, not exhaustive).
-/
import PabuProofs.Lemmas.MES
import PabuProofs.Lemmas.Price
namespace Pabu

namespace PriceMes
open Pabu.MES Pabu.Price

def listV (n : Nat) (u : Nat → Pid → Rat) : VCtx := ⟨List.range n, fun _ => 1, u⟩

theorem numVoters_listV (n : Nat) (u : Nat → Pid → Rat) : numVoters (listV n u) = n := by
  have hlen : ∀ l : List Nat, sumNat l (fun _ => 1) = l.length := fun l => by
    induction l with
    | nil => rfl
    | cons x xs ih => rw [sumNat_cons, ih, List.length_cons, Nat.add_comm]
  exact (hlen _).trans List.length_range

theorem run_listV (I : Inst) (n : Nat) (u : Nat → Pid → Rat) (init : List Pid)
    (order : List Pid → Except Err (List Pid)) :
    MES.run (listV n u) I init order = runAt (listV n u) I init order (I.budget / (n : Nat)) := by
  rw [MES.run, numVoters_listV]

theorem runAll_listV (I : Inst) (n : Nat) (u : Nat → Pid → Rat) (init : List Pid)
    (order : List Pid → Except Err (List Pid)) :
    MES.runAll (listV n u) I init order = runAllAt (listV n u) I init order (I.budget / (n : Nat)) := by
  rw [MES.runAll, numVoters_listV]

theorem listV_inputOK {I : Inst} (n : Nat) (u : Nat → Pid → Rat) (hproj : I.projects.Nodup)
    (hcost : ∀ p ∈ I.projects, 0 ≤ I.cost p) : InputOK (listV n u) I [] :=
  ⟨fun _ _ => le_refl 1, hproj, fun p hp => by simp at hp, List.nodup_nil, hcost⟩

def at0 (l : List Rat) (i : Nat) : Rat := (l[i]?).getD 0

/-- what voter `i` paid for `p` according to the record: the money they lost in the rounds that
    selected `p` -/
def paid : List Iteration → Nat → Pid → Rat
  | [], _, _ => 0
  | it :: rest, i, p =>
    (if it.selected = some p then at0 it.before i - at0 it.after i else 0) + paid rest i p

def selections (L : List Iteration) : List Pid := L.filterMap (fun it => it.selected)

theorem at0_budgets (n : Nat) (u : Nat → Pid → Rat) (b : Nat → Rat) {i : Nat} (hi : i < n) :
    at0 (budgets (listV n u) b) i = b i := by
  unfold at0 budgets listV
  simp [hi]

theorem paid_stop (bs : List Rat) (i : Nat) (p : Pid) : paid [⟨bs, none, none, []⟩] i p = 0 := by
  show (if (none : Option Pid) = some p then _ else (0 : Rat)) + 0 = 0
  rw [if_neg (by simp), add_zero]

theorem paid_step {n : Nat} {u : Nat → Pid → Rat} {cost : Pid → Rat} {s : State} {t : Pid} {r : Rat}
    (hr : rho (listV n u) cost s.b t = some r) (rest : List Iteration) {i : Nat} (hi : i < n)
    (p : Pid) :
    paid (⟨budgets (listV n u) s.b, some t, some r, budgets (listV n u) (buy (listV n u) cost s t).b⟩
      :: rest) i p = (if t = p then pay (listV n u) s.b t r i else 0) + paid rest i p := by
  show (if some t = some p then at0 (budgets (listV n u) s.b) i -
    at0 (budgets (listV n u) (buy (listV n u) cost s t).b) i else 0) + paid rest i p = _
  rw [at0_budgets n u _ hi, at0_budgets n u _ hi, buy_some hr]
  by_cases h : t = p
  · rw [if_pos h, if_pos (by rw [h])]; ring
  · rw [if_neg h, if_neg (fun h' => h (Option.some.inj h'))]

theorem selections_cons (bs as : List Rat) (t : Pid) (r : Option Rat) (rest : List Iteration) :
    selections (⟨bs, some t, r, as⟩ :: rest) = t :: selections rest := rfl

theorem sumOver_filter_congr {α : Type} (f : α → Rat) (p q : α → Bool) : ∀ l : List α,
    (∀ x ∈ l, p x = q x) → sumOver (l.filter p) f = sumOver (l.filter q) f := by
  intro l h
  rw [List.filter_congr h]

theorem pay_total_list {n : Nat} {u : Nat → Pid → Rat} {cost : Pid → Rat} {b : Nat → Rat} {t : Pid}
    {r : Rat} (hb : ∀ i ∈ List.range n, 0 ≤ b i) (hc : 0 < cost t)
    (hr : rho (listV n u) cost b t = some r) :
    sumOver (List.range n) (fun i => pay (listV n u) b t r i) = cost t := by
  rw [← pay_total (V := listV n u) ⟨hb, fun _ _ => le_refl 1⟩ hc hr]
  exact sumOver_congr fun i _ => ((congrArg (· * _) Nat.cast_one).trans (one_mul _)).symm

/-! ### the per-condition lemmas -/

/-- C1: a voter with no positive utility for `p` never pays for `p` -/
theorem paid_nonsupporter {n : Nat} {u : Nat → Pid → Rat} {cost : Pid → Rat} {s s' : State}
    {L : List Iteration} (h : Recorded (listV n u) cost s L s') {i : Nat} (hi : i < n) {p : Pid}
    (hu : ¬ 0 < u i p) : paid L i p = 0 := by
  induction h with
  | stop s => exact paid_stop _ i p
  | step s t r rest s' ht hr hb hrec ih =>
    rw [paid_step hr rest hi p, ih, add_zero]
    split
    · subst t
      exact pay_nonsupporter (listV n u) s.b p r i hu
    · rfl

/-- C4: nobody pays for a project that no recorded round selected -/
theorem paid_unselected {n : Nat} {u : Nat → Pid → Rat} {cost : Pid → Rat} {s s' : State}
    {L : List Iteration} (h : Recorded (listV n u) cost s L s') {i : Nat} (hi : i < n) {p : Pid}
    (hp : p ∉ selections L) : paid L i p = 0 := by
  induction h with
  | stop s => exact paid_stop _ i p
  | step s t r rest s' ht hr hb hrec ih =>
    rw [selections_cons, List.mem_cons, not_or] at hp
    rw [paid_step hr rest hi p, ih hp.2, add_zero, if_neg (fun h => hp.1 h.symm)]

theorem paid_nonneg {n : Nat} {u : Nat → Pid → Rat} {cost : Pid → Rat} {B : Rat} {s s' : State}
    {L : List Iteration} (h : Recorded (listV n u) cost s L s') (hs : Inv (listV n u) cost B s)
    {i : Nat} (hi : i < n) (p : Pid) : 0 ≤ paid L i p := by
  induction h with
  | stop s => rw [paid_stop]
  | step s t r rest s' ht hr hb hrec ih =>
    have hm : ∀ j ∈ (listV n u).vs, 1 ≤ (listV n u).m j := fun _ _ => le_refl 1
    have hrpos : 0 < r := rho_pos ⟨hs.nonneg, hm⟩ (hs.pool_pos t (tied_sub_pool ht)) hr
    rw [paid_step hr rest hi p]
    refine add_nonneg ?_ (ih (buy_inv hm ht hs))
    split
    · exact pay_nonneg (listV n u) s.b t r i (hs.nonneg i (List.mem_range.mpr hi)) hrpos.le
    · exact le_rfl

/-- C3 / C4: the voters together pay the cost of `p` once per round that selected `p` -/
theorem paid_total {n : Nat} {u : Nat → Pid → Rat} {cost : Pid → Rat} {B : Rat} {s s' : State}
    {L : List Iteration} (h : Recorded (listV n u) cost s L s') (hs : Inv (listV n u) cost B s)
    (p : Pid) :
    sumOver (List.range n) (fun i => paid L i p) = cost p * ((selections L).count p : Nat) := by
  induction h with
  | stop s =>
    rw [sumOver_eq_zero fun i _ => paid_stop _ i p]
    exact (mul_zero _).symm
  | step s t r rest s' ht hr hb hrec ih =>
    have hm : ∀ j ∈ (listV n u).vs, 1 ≤ (listV n u).m j := fun _ _ => le_refl 1
    rw [selections_cons, sumOver_congr fun i hi => paid_step hr rest (List.mem_range.mp hi) p, sumOver_add,
      ih (buy_inv hm ht hs)]
    by_cases htp : t = p
    · subst htp
      simp only [↓reduceIte]
      rw [pay_total_list hs.nonneg (hs.pool_pos t (tied_sub_pool ht)) hr, List.count_cons_self, Nat.cast_succ]
      ring
    · simp only [htp, ↓reduceIte]
      rw [sumOver_zero, List.count_cons_of_ne htp, zero_add]

/-- C2: the money a voter starts with minus everything they paid (summed over the projects of the
    instance) is the money they hold at the stop -/
theorem paid_spent {n : Nat} {u : Nat → Pid → Rat} {cost : Pid → Rat} {s s' : State}
    {L : List Iteration} (h : Recorded (listV n u) cost s L s') (C : List Pid) (hC : C.Nodup)
    (hpool : ∀ p ∈ s.pool, p ∈ C) {i : Nat} (hi : i < n) :
    s.b i - sumOver C (paid L i) = s'.b i := by
  induction h with
  | stop s => rw [sumOver_eq_zero fun p _ => paid_stop _ i p, sub_zero]
  | step s t r rest s' ht hr hb hrec ih =>
    have hrest := ih fun p hp => hpool p (List.mem_filter.mp (buy_pool _ cost s t ▸ hp)).1
    rw [buy_some hr] at hrest
    rw [sumOver_congr fun p _ => paid_step hr rest hi p, sumOver_add,
      sumOver_ite_eq t _ hC (hpool t (tied_sub_pool ht)), ← sub_sub]
    exact hrest

/-! ### the price-system input read off a record -/

/-- what `validate_price_system` is given: the instance, the outcome, the voters with their
    approval ballots `app i` and recorded payments `paid L i`, the per-voter budget `b0` -/
def inputOf (I : Inst) (n : Nat) (app : Nat → Pid → Bool) (L : List Iteration) (W : List Pid)
    (b0 : Rat) : Input :=
  { C := I.projects, cost := I.cost, budget := I.budget, W := W,
    N := (List.range n).map (fun i => ⟨app i, paid L i⟩), b := b0 }

theorem mem_N {I : Inst} {n : Nat} {app : Nat → Pid → Bool} {L : List Iteration} {W : List Pid}
    {b0 : Rat} {v : PVoter} (hv : v ∈ (inputOf I n app L W b0).N) :
    ∃ i, i < n ∧ v = ⟨app i, paid L i⟩ := by
  obtain ⟨i, hi, rfl⟩ := List.mem_map.mp hv
  exact ⟨i, List.mem_range.mp hi, rfl⟩

theorem mem_NW {I : Inst} {n : Nat} {app : Nat → Pid → Bool} {L : List Iteration} {W : List Pid}
    {b0 : Rat} {c : Pid} (hc : c ∈ (inputOf I n app L W b0).NW) : c ∈ I.projects ∧ c ∉ W :=
  ⟨(List.mem_filter.mp hc).1, by simpa [inputOf] using (List.mem_filter.mp hc).2⟩

theorem supporters_eq_approvers {n : Nat} {u : Nat → Pid → Rat} {app : Nat → Pid → Bool} {c : Pid}
    (h : ∀ i, i < n → (0 < u i c ↔ app i c = true)) :
    supporters (listV n u) c = (List.range n).filter (fun i => app i c) :=
  List.filter_congr fun i hi => (Bool.eq_iff_iff.mpr (decide_eq_true_iff.trans (h i (List.mem_range.mp hi))))

theorem leftoverOf_eq_budSum {I : Inst} {n : Nat} {u : Nat → Pid → Rat} {app : Nat → Pid → Bool}
    {L : List Iteration} {W : List Pid} {b0 : Rat} {b' : Nat → Rat} {c : Pid}
    (happ : ∀ i, i < n → (0 < u i c ↔ app i c = true))
    (hleft : ∀ i, i < n → b0 - sumOver I.projects (paid L i) = b' i) :
    leftoverOf (inputOf I n app L W b0) c = budSum (sups (listV n u) b' c) := by
  rw [budSum_sups_eq, supporters_eq_approvers happ]
  show sumOver (((List.range n).map (fun i => (⟨app i, paid L i⟩ : PVoter))).filter
    (fun v => v.app c)) (leftover (inputOf I n app L W b0)) = _
  rw [List.filter_map, sumOver_map]
  refine sumOver_congr fun i hi => ?_
  show b0 - sumOver I.projects (paid L i) = ((1 : Nat) : Rat) * b' i
  rw [hleft i (List.mem_range.mp (List.mem_filter.mp hi).1), Nat.cast_one, one_mul]

/-- **the recorded payments of an Equal-Shares run form a price system** for the state it stops
    in.  `s'` is the stop state of a record from the initial state (list profile, no initial
    projects) in which no pool project has a price.  Hypotheses forced by the proof: costs ≥ 0, the
    allocation feasible (C0a; nothing else reads the budget limit), and a voter has positive utility
    exactly for the projects they approve. -/
theorem recorded_exact {I : Inst} {n : Nat} {u : Nat → Pid → Rat} {app : Nat → Pid → Bool}
    (hproj : I.projects.Nodup) (hcost : ∀ p ∈ I.projects, 0 ≤ I.cost p) {b0 : Rat} (hb0 : 0 ≤ b0)
    (hpos : ∀ i, i < n → ∀ p ∈ I.projects, (0 < u i p ↔ app i p = true))
    {L : List Iteration} {s' : State} (hfeas : costOf I.cost s'.alloc ≤ I.budget)
    (hrec : Recorded (listV n u) I.cost (initState (listV n u) I [] b0) L s')
    (hstop : ∀ p ∈ s'.pool, rho (listV n u) I.cost s'.b p = none) :
    Exact (inputOf I n app L s'.alloc b0) false false := by
  have hm : ∀ j ∈ (listV n u).vs, 1 ≤ (listV n u).m j := fun _ _ => le_refl 1
  have hgood0 := (listV_inputOK (I := I) n u hproj hcost).good hb0
  have hgood := hrec.good hm hgood0
  have halloc : s'.alloc = zeroCost (listV n u) I [] ++ selections L := by
    rw [hrec.alloc]; rfl
  have hnd : (zeroCost (listV n u) I [] ++ selections L).Nodup := halloc ▸ hgood.2.alloc_nodup
  have hleft : ∀ i, i < n → b0 - sumOver I.projects (paid L i) = s'.b i :=
    fun i hi => paid_spent hrec I.projects hproj (fun p hp => (mem_initPool.mp hp).1) hi
  -- the voters together pay for `c` its cost times the number of rounds that selected it: 1 or 0
  have htot : ∀ c, paidFor (inputOf I n app L s'.alloc b0) c =
      I.cost c * ((selections L).count c : Nat) := by
    intro c; exact (sumOver_map _ _ _).trans (paid_total hrec hgood0.1 c)
  refine ⟨?_, (fun h => by cases h), ?_, ?_, ?_, ?_, ?_, ?_, (fun h => by cases h)⟩
  · -- C0a
    exact hfeas
  · -- C1
    intro v hv c hc ha
    obtain ⟨i, hi, rfl⟩ := mem_N hv
    exact paid_nonsupporter hrec hi fun hu => Bool.false_ne_true (ha.symm.trans ((hpos i hi c hc).mp hu))
  · -- payments ≥ 0
    intro v hv c _
    obtain ⟨i, hi, rfl⟩ := mem_N hv
    exact paid_nonneg hrec hgood0.1 hi c
  · -- C2
    intro v hv
    obtain ⟨i, hi, rfl⟩ := mem_N hv
    exact sub_nonneg.mp ((hleft i hi).symm ▸ hgood.1.nonneg i (List.mem_range.mpr hi))
  · -- C3: a zero-cost project was never selected by a round, a selected one exactly once
    intro c hc
    show paidFor _ c = I.cost c
    rw [htot]
    rcases List.mem_append.mp (halloc ▸ hc : c ∈ zeroCost (listV n u) I [] ++ selections L) with hz | hs
    · have hz' := mem_zeroCost.mp hz
      rw [le_antisymm (not_lt.mp hz'.2.2.2) (hcost c hz'.1), zero_mul]
    · rw [List.count_eq_one_of_mem (List.nodup_append.mp hnd).2.1 hs, Nat.cast_one, mul_one]
  · -- C4
    intro c hc
    have hsel : c ∉ selections L := fun h => (mem_NW hc).2 (halloc ▸ List.mem_append_right _ h)
    rw [htot, List.count_eq_zero_of_not_mem hsel, Nat.cast_zero, mul_zero]
  · -- C5: an unselected project with a supporter is still in the pool and has no price at the stop
    intro _ c hc
    obtain ⟨hcC, hcW⟩ := mem_NW hc
    rw [leftoverOf_eq_budSum (u := u) (b' := s'.b) (fun i hi => hpos i hi c hcC) hleft]
    show budSum (sups (listV n u) s'.b c) ≤ I.cost c
    by_cases hsup : supporters (listV n u) c = []
    · rw [sups, hsup]
      exact hcost c hcC
    · obtain ⟨i, hi⟩ := List.exists_mem_of_ne_nil _ hsup
      have hcs' := hrec.unbought_mem_pool (hrec.mem_initPool_of_unbought hm hcC hi hcW) hcW
      exact ((rho_none_iff ⟨hgood.1.nonneg, hm⟩ (hgood.1.pool_pos c hcs')).mp (hstop c hcs')).le

end PriceMes
end Pabu
