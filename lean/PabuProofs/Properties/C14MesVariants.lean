/-
  C14, last clause, for the other ways the library runs the Method of Equal Shares.  Properties/C14Mes.lean proves it
  for the resolute run at any per-voter budget `b0 ≥ budget / n` (`mesAt_EJR_*`): the
  conclusions are always about the budget limit of the instance, since a group that is large enough for `T` has
  `cost T ≤ |G| · budget / n ≤ |G| · b0`.  Here:

  * irresolute: every irresolute outcome is the name-sorted outcome of a resolute run under some strict order
    (`MES.runAllAt_realised`, the adapter to C08), and the notions do not depend on the order in which the allocation
    is listed (`satisfies_perm`) — `lift_irresolute`;
  * iterated (`voter_budget_increment`): the rule returns the feasible outcome of a run at `budget / n + k·inc`
    (`MES.iterated_share_is_runAt`) — `lift_iterated`, `lift_iteratedAll`; the lazy implementation by C02Lazy.
  `mesAt_of_plain` relates the run at `b0` to the plain rule on the instance with budget limit `n · b0`; the
  guarantees do not go through it.

  A non-empty initial allocation is outside the rule's specification — Equal Shares ignores the cost of the initial
  allocation (DESIGN.md §10.4) — so no EJR statement is made for it; what is preserved in every mode is `init ⊆ W`
  (`mes_variants_keep_init`).
-/
import PabuProofs.Lemmas.MesVariants
import PabuProofs.Properties.C14Mes
import PabuProofs.Properties.C02Lazy
namespace Pabu.JR
open Pabu List Pabu.MES

/-- the transfer: what the plain rule guarantees on the instance with budget limit `n · b0` holds, for the
    original budget limit, for the run at `b0 ≥ budget / n` -/
theorem mesAt_of_plain (I : Inst) (P : List ((Pid → Bool) × Nat)) (byCost : Bool) (up : UpTo)
    (order : List Pid → Except Err (List Pid)) (W : List Pid) (b0 : Rat) (hm : ∀ e ∈ P, 1 ≤ e.2)
    (hb : I.budget / (numVoters (mesVCtx I.cost byCost P) : Nat) ≤ b0)
    (hrun : runAt (mesVCtx I.cost byCost P) I [] order b0 = .ok W)
    (plain : MES.run (mesVCtx I.cost byCost P)
        ⟨I.projects, I.cost, (numVoters (mesVCtx I.cost byCost P) : Nat) * b0⟩ [] order = .ok W →
      Satisfies (settingOf ⟨I.projects, I.cost, (numVoters (mesVCtx I.cost byCost P) : Nat) * b0⟩ byCost P)
        (expand (approvalVoters I.cost byCost P)) false .ejr up W) :
    Satisfies (settingOf I byCost P) (expand (approvalVoters I.cost byCost P)) false .ejr up W := by
  by_cases hn : 0 < numVoters (mesVCtx I.cost byCost P)
  · have hnq : (0 : Rat) < ((numVoters (mesVCtx I.cost byCost P) : Nat) : Rat) := by exact_mod_cast hn
    have h1 := plain (by rw [(run_scaled _ I [] order b0 hn).1]; exact hrun)
    exact satisfies_budget_anti (settingOf I byCost P) _ ((div_le_iff₀' hnq).mp hb) _ false .ejr up W h1
  · have hP : P = [] := by
      by_contra hne
      exact hn (numVoters_mes I.cost byCost P ▸ sumNat_pos _ P hne hm)
    subst hP
    exact satisfies_no_voters _ _ _ _ _

/-! ### the three lifts: irresolute, iterated, iterated irresolute

`G` is any property of allocations that (a) holds for the outcome of every resolute run at a budget
`≥ budget / n` under an order function meeting `hord`, `hne`, and (b) does not depend on the listing order. -/

section lifts
variable {V : VCtx} {I : Inst} {G : List Pid → Prop}

def ResoluteGuarantee (V : VCtx) (I : Inst) (G : List Pid → Prop) : Prop :=
  ∀ (order : List Pid → Except Err (List Pid)) (b0 : Rat) (W : List Pid),
    (∀ T l, order T = .ok l → ∀ x ∈ l, x ∈ T) → (∀ T, T ≠ [] → order T ≠ .ok []) →
    I.budget / (numVoters V : Nat) ≤ b0 → runAt V I [] order b0 = .ok W → G W

theorem lift_irresolute (hG : ResoluteGuarantee V I G) (hperm : ∀ W W', W.Perm W' → G W → G W')
    (hnd : I.projects.Nodup) {order : List Pid → Except Err (List Pid)}
    (hord : ∀ T l, order T = .ok l → ∀ x ∈ l, x ∈ T) {b0 : Rat}
    (hb : I.budget / (numVoters V : Nat) ≤ b0) {L : List (List Pid)}
    (hL : runAllAt V I [] order b0 = .ok L) : ∀ W ∈ L, G W := by
  intro W' hW'
  obtain ⟨π, _, W, hW, rfl⟩ := runAllAt_realised hord hnd I.cost (fun _ => 0) hL W' hW'
  exact hperm W _ (sortIds_perm W).symm
    (hG _ b0 W (Tie.order_mem _ _ _) (Tie.order_ne_nil _ _ _) hb hW)

theorem lift_iterated (hG : ResoluteGuarantee V I G) (hin : InputOK V I [])
    {order : List Pid → Except Err (List Pid)}
    (hord : ∀ T l, order T = .ok l → ∀ x ∈ l, x ∈ T) (hne : ∀ T, T ≠ [] → order T ≠ .ok [])
    (hB : 0 ≤ I.budget) {inc : Rat} (hinc : 0 ≤ inc) {fuel : Nat} {prev W : List Pid}
    (hW : iterated V I [] order inc fuel (I.budget / (numVoters V : Nat)) prev = .ok W) :
    G W ∧ I.isFeasible W = true := by
  obtain ⟨k, hk, hf⟩ := iterated_share_is_runAt hin hord hB hW
  exact ⟨hG order _ W hord hne (le_try hinc k) hk, hf⟩

theorem lift_iteratedAll (hG : ResoluteGuarantee V I G) (hperm : ∀ W W', W.Perm W' → G W → G W')
    (hin : InputOK V I []) {order : List Pid → Except Err (List Pid)}
    (hord : ∀ T l, order T = .ok l → ∀ x ∈ l, x ∈ T)
    (hB : 0 ≤ I.budget) {inc : Rat} (hinc : 0 ≤ inc) {fuel : Nat} {prev Ws : List (List Pid)}
    (hW : iteratedAll V I [] order inc fuel (I.budget / (numVoters V : Nat)) prev = .ok Ws) :
    ∀ W ∈ Ws, G W ∧ I.isFeasible W = true := by
  obtain ⟨k, hk, hf⟩ := iteratedAll_share_is_runAllAt hin hord hB hW
  intro W hWs
  exact ⟨lift_irresolute hG hperm hin.proj_nodup hord (le_try hinc k) hk W hWs, hf W hWs⟩

end lifts

/-! ### the resolute guarantees, in the form the lifts take -/

theorem guarantee_any_cost (I : Inst) (P : List ((Pid → Bool) × Nat))
    (hcost : ∀ p ∈ I.projects, 0 < I.cost p) (hB : 0 ≤ I.budget) (hnd : I.projects.Nodup) (hm : ∀ e ∈ P, 1 ≤ e.2) :
    ResoluteGuarantee (mesVCtx I.cost true P) I
      (Satisfies (settingOf I true P) (expand (approvalVoters I.cost true P)) false .ejr .any) :=
  fun order b0 W hord hne hb hrun => mesAt_EJR_any_cost I P order W b0 hcost hB hnd hm hord hne hb hrun

theorem guarantee_cardinality (I : Inst) (P : List ((Pid → Bool) × Nat))
    (hcost : ∀ p ∈ I.projects, 0 ≤ I.cost p) (hB : 0 ≤ I.budget) (hnd : I.projects.Nodup) (hm : ∀ e ∈ P, 1 ≤ e.2) :
    ResoluteGuarantee (mesVCtx I.cost false P) I
      (Satisfies (settingOf I false P) (expand (approvalVoters I.cost false P)) false .ejr .none) :=
  fun order b0 W hord hne hb hrun => mesAt_EJR_cardinality I P order W b0 hcost hB hnd hm hord hne hb hrun

theorem guarantee_x (I : Inst) (P : List ((Pid → Bool) × Nat)) (byCost : Bool)
    (hcost : ∀ p ∈ I.projects, 0 < I.cost p) (hB : 0 ≤ I.budget) (hnd : I.projects.Nodup) (hm : ∀ e ∈ P, 1 ≤ e.2) :
    ResoluteGuarantee (mesVCtx I.cost byCost P) I
      (Satisfies (settingOf I byCost P) (expand (approvalVoters I.cost byCost P)) false .ejr
        (if byCost then .any else .one)) :=
  fun order b0 W hord hne hb hrun => mesAt_EJR_x I P order W byCost b0 hcost hB hnd hm hord hne hb hrun

/-! ### IRRESOLUTE: every allocation of the irresolute answer -/

/-- the order function only has to return members of the tied set: it is used to enumerate the branches, not to choose -/
theorem mesAllAt_EJR_any_cost (I : Inst) (P : List ((Pid → Bool) × Nat)) (order : List Pid → Except Err (List Pid))
    (L : List (List Pid)) (b0 : Rat) (hcost : ∀ p ∈ I.projects, 0 < I.cost p) (hB : 0 ≤ I.budget)
    (hnd : I.projects.Nodup) (hm : ∀ e ∈ P, 1 ≤ e.2) (hord : ∀ T l, order T = .ok l → ∀ x ∈ l, x ∈ T)
    (hb : I.budget / (numVoters (mesVCtx I.cost true P) : Nat) ≤ b0)
    (hL : runAllAt (mesVCtx I.cost true P) I [] order b0 = .ok L) :
    ∀ W ∈ L, Satisfies (settingOf I true P) (expand (approvalVoters I.cost true P)) false .ejr .any W :=
  lift_irresolute (guarantee_any_cost I P hcost hB hnd hm) (fun _ _ h => satisfies_perm _ _ _ _ _ h) hnd hord hb hL

theorem mesAllAt_EJR_cardinality (I : Inst) (P : List ((Pid → Bool) × Nat)) (order : List Pid → Except Err (List Pid))
    (L : List (List Pid)) (b0 : Rat) (hcost : ∀ p ∈ I.projects, 0 ≤ I.cost p) (hB : 0 ≤ I.budget)
    (hnd : I.projects.Nodup) (hm : ∀ e ∈ P, 1 ≤ e.2) (hord : ∀ T l, order T = .ok l → ∀ x ∈ l, x ∈ T)
    (hb : I.budget / (numVoters (mesVCtx I.cost false P) : Nat) ≤ b0)
    (hL : runAllAt (mesVCtx I.cost false P) I [] order b0 = .ok L) :
    ∀ W ∈ L, Satisfies (settingOf I false P) (expand (approvalVoters I.cost false P)) false .ejr .none W :=
  lift_irresolute (guarantee_cardinality I P hcost hB hnd hm) (fun _ _ h => satisfies_perm _ _ _ _ _ h) hnd hord hb hL

theorem mesAllAt_EJR_x (I : Inst) (P : List ((Pid → Bool) × Nat)) (order : List Pid → Except Err (List Pid))
    (L : List (List Pid)) (byCost : Bool) (b0 : Rat) (hcost : ∀ p ∈ I.projects, 0 < I.cost p) (hB : 0 ≤ I.budget)
    (hnd : I.projects.Nodup) (hm : ∀ e ∈ P, 1 ≤ e.2) (hord : ∀ T l, order T = .ok l → ∀ x ∈ l, x ∈ T)
    (hb : I.budget / (numVoters (mesVCtx I.cost byCost P) : Nat) ≤ b0)
    (hL : runAllAt (mesVCtx I.cost byCost P) I [] order b0 = .ok L) :
    ∀ W ∈ L, Satisfies (settingOf I byCost P) (expand (approvalVoters I.cost byCost P)) false .ejr
      (if byCost then .any else .one) W :=
  lift_irresolute (guarantee_x I P byCost hcost hB hnd hm) (fun _ _ h => satisfies_perm _ _ _ _ _ h) hnd hord hb hL

theorem mes_irresolute_EJR_any_cost (I : Inst) (P : List ((Pid → Bool) × Nat))
    (order : List Pid → Except Err (List Pid)) (L : List (List Pid))
    (hcost : ∀ p ∈ I.projects, 0 < I.cost p) (hB : 0 ≤ I.budget) (hnd : I.projects.Nodup) (hm : ∀ e ∈ P, 1 ≤ e.2)
    (hord : ∀ T l, order T = .ok l → ∀ x ∈ l, x ∈ T)
    (hL : MES.runAll (mesVCtx I.cost true P) I [] order = .ok L) :
    ∀ W ∈ L, Satisfies (settingOf I true P) (expand (approvalVoters I.cost true P)) false .ejr .any W :=
  mesAllAt_EJR_any_cost I P order L _ hcost hB hnd hm hord (le_refl _) hL

theorem mes_irresolute_EJR_cardinality (I : Inst) (P : List ((Pid → Bool) × Nat))
    (order : List Pid → Except Err (List Pid)) (L : List (List Pid))
    (hcost : ∀ p ∈ I.projects, 0 ≤ I.cost p) (hB : 0 ≤ I.budget) (hnd : I.projects.Nodup) (hm : ∀ e ∈ P, 1 ≤ e.2)
    (hord : ∀ T l, order T = .ok l → ∀ x ∈ l, x ∈ T)
    (hL : MES.runAll (mesVCtx I.cost false P) I [] order = .ok L) :
    ∀ W ∈ L, Satisfies (settingOf I false P) (expand (approvalVoters I.cost false P)) false .ejr .none W :=
  mesAllAt_EJR_cardinality I P order L _ hcost hB hnd hm hord (le_refl _) hL

theorem mes_irresolute_EJR_one_cardinality (I : Inst) (P : List ((Pid → Bool) × Nat))
    (order : List Pid → Except Err (List Pid)) (L : List (List Pid))
    (hcost : ∀ p ∈ I.projects, 0 ≤ I.cost p) (hB : 0 ≤ I.budget) (hnd : I.projects.Nodup) (hm : ∀ e ∈ P, 1 ≤ e.2)
    (hord : ∀ T l, order T = .ok l → ∀ x ∈ l, x ∈ T)
    (hL : MES.runAll (mesVCtx I.cost false P) I [] order = .ok L) :
    ∀ W ∈ L, Satisfies (settingOf I false P) (expand (approvalVoters I.cost false P)) false .ejr .any W ∧
      Satisfies (settingOf I false P) (expand (approvalVoters I.cost false P)) false .ejr .one W :=
  fun W hW => card_any_one_of_plain I P W (mes_irresolute_EJR_cardinality I P order L hcost hB hnd hm hord hL W hW)

theorem mes_irresolute_EJR_x (I : Inst) (P : List ((Pid → Bool) × Nat)) (order : List Pid → Except Err (List Pid))
    (L : List (List Pid)) (byCost : Bool)
    (hcost : ∀ p ∈ I.projects, 0 < I.cost p) (hB : 0 < I.budget) (hnd : I.projects.Nodup) (hm : ∀ e ∈ P, 1 ≤ e.2)
    (hord : ∀ T l, order T = .ok l → ∀ x ∈ l, x ∈ T)
    (hL : MES.runAll (mesVCtx I.cost byCost P) I [] order = .ok L) :
    ∀ W ∈ L, Satisfies (settingOf I byCost P) (expand (approvalVoters I.cost byCost P)) false .ejr
      (if byCost then .any else .one) W :=
  mesAllAt_EJR_x I P order L byCost _ hcost (le_of_lt hB) hnd hm hord (le_refl _) hL

/-! ### ITERATED (`voter_budget_increment`): the guarantees hold for the ORIGINAL budget limit -/

theorem mes_iterated_EJR_any_cost (I : Inst) (P : List ((Pid → Bool) × Nat)) (order : List Pid → Except Err (List Pid))
    (W prev : List Pid) (inc : Rat) (fuel : Nat)
    (hcost : ∀ p ∈ I.projects, 0 < I.cost p) (hB : 0 ≤ I.budget) (hnd : I.projects.Nodup) (hm : ∀ e ∈ P, 1 ≤ e.2)
    (hord : ∀ T l, order T = .ok l → ∀ x ∈ l, x ∈ T) (hne : ∀ T, T ≠ [] → order T ≠ .ok []) (hinc : 0 ≤ inc)
    (hrun : MES.iterated (mesVCtx I.cost true P) I [] order inc fuel
      (I.budget / (numVoters (mesVCtx I.cost true P) : Nat)) prev = .ok W) :
    Satisfies (settingOf I true P) (expand (approvalVoters I.cost true P)) false .ejr .any W ∧
      I.isFeasible W = true :=
  lift_iterated (guarantee_any_cost I P hcost hB hnd hm)
    (mes_inputOK I true P hm hnd (fun p hp => le_of_lt (hcost p hp))) hord hne hB hinc hrun

theorem mes_iterated_EJR_cardinality (I : Inst) (P : List ((Pid → Bool) × Nat))
    (order : List Pid → Except Err (List Pid)) (W prev : List Pid) (inc : Rat) (fuel : Nat)
    (hcost : ∀ p ∈ I.projects, 0 ≤ I.cost p) (hB : 0 ≤ I.budget) (hnd : I.projects.Nodup) (hm : ∀ e ∈ P, 1 ≤ e.2)
    (hord : ∀ T l, order T = .ok l → ∀ x ∈ l, x ∈ T) (hne : ∀ T, T ≠ [] → order T ≠ .ok []) (hinc : 0 ≤ inc)
    (hrun : MES.iterated (mesVCtx I.cost false P) I [] order inc fuel
      (I.budget / (numVoters (mesVCtx I.cost false P) : Nat)) prev = .ok W) :
    Satisfies (settingOf I false P) (expand (approvalVoters I.cost false P)) false .ejr .none W ∧
      I.isFeasible W = true :=
  lift_iterated (guarantee_cardinality I P hcost hB hnd hm) (mes_inputOK I false P hm hnd hcost) hord hne hB hinc hrun

theorem mes_iterated_EJR_one_cardinality (I : Inst) (P : List ((Pid → Bool) × Nat))
    (order : List Pid → Except Err (List Pid)) (W prev : List Pid) (inc : Rat) (fuel : Nat)
    (hcost : ∀ p ∈ I.projects, 0 ≤ I.cost p) (hB : 0 ≤ I.budget) (hnd : I.projects.Nodup) (hm : ∀ e ∈ P, 1 ≤ e.2)
    (hord : ∀ T l, order T = .ok l → ∀ x ∈ l, x ∈ T) (hne : ∀ T, T ≠ [] → order T ≠ .ok []) (hinc : 0 ≤ inc)
    (hrun : MES.iterated (mesVCtx I.cost false P) I [] order inc fuel
      (I.budget / (numVoters (mesVCtx I.cost false P) : Nat)) prev = .ok W) :
    Satisfies (settingOf I false P) (expand (approvalVoters I.cost false P)) false .ejr .any W ∧
    Satisfies (settingOf I false P) (expand (approvalVoters I.cost false P)) false .ejr .one W :=
  card_any_one_of_plain I P W
    (mes_iterated_EJR_cardinality I P order W prev inc fuel hcost hB hnd hm hord hne hinc hrun).1

theorem mes_iterated_EJR_x (I : Inst) (P : List ((Pid → Bool) × Nat)) (order : List Pid → Except Err (List Pid))
    (W prev : List Pid) (byCost : Bool) (inc : Rat) (fuel : Nat)
    (hcost : ∀ p ∈ I.projects, 0 < I.cost p) (hB : 0 < I.budget) (hnd : I.projects.Nodup) (hm : ∀ e ∈ P, 1 ≤ e.2)
    (hord : ∀ T l, order T = .ok l → ∀ x ∈ l, x ∈ T) (hne : ∀ T, T ≠ [] → order T ≠ .ok []) (hinc : 0 ≤ inc)
    (hrun : MES.iterated (mesVCtx I.cost byCost P) I [] order inc fuel
      (I.budget / (numVoters (mesVCtx I.cost byCost P) : Nat)) prev = .ok W) :
    Satisfies (settingOf I byCost P) (expand (approvalVoters I.cost byCost P)) false .ejr
      (if byCost then .any else .one) W ∧ I.isFeasible W = true :=
  lift_iterated (guarantee_x I P byCost hcost (le_of_lt hB) hnd hm)
    (mes_inputOK I byCost P hm hnd (fun p hp => le_of_lt (hcost p hp))) hord hne (le_of_lt hB) hinc hrun

theorem mes_iteratedAll_EJR_any_cost (I : Inst) (P : List ((Pid → Bool) × Nat))
    (order : List Pid → Except Err (List Pid)) (Ws prev : List (List Pid)) (inc : Rat) (fuel : Nat)
    (hcost : ∀ p ∈ I.projects, 0 < I.cost p) (hB : 0 ≤ I.budget) (hnd : I.projects.Nodup) (hm : ∀ e ∈ P, 1 ≤ e.2)
    (hord : ∀ T l, order T = .ok l → ∀ x ∈ l, x ∈ T) (hinc : 0 ≤ inc)
    (hrun : MES.iteratedAll (mesVCtx I.cost true P) I [] order inc fuel
      (I.budget / (numVoters (mesVCtx I.cost true P) : Nat)) prev = .ok Ws) :
    ∀ W ∈ Ws, Satisfies (settingOf I true P) (expand (approvalVoters I.cost true P)) false .ejr .any W ∧
      I.isFeasible W = true :=
  lift_iteratedAll (guarantee_any_cost I P hcost hB hnd hm) (fun _ _ h => satisfies_perm _ _ _ _ _ h)
    (mes_inputOK I true P hm hnd (fun p hp => le_of_lt (hcost p hp))) hord hB hinc hrun

theorem mes_iteratedAll_EJR_cardinality (I : Inst) (P : List ((Pid → Bool) × Nat))
    (order : List Pid → Except Err (List Pid)) (Ws prev : List (List Pid)) (inc : Rat) (fuel : Nat)
    (hcost : ∀ p ∈ I.projects, 0 ≤ I.cost p) (hB : 0 ≤ I.budget) (hnd : I.projects.Nodup) (hm : ∀ e ∈ P, 1 ≤ e.2)
    (hord : ∀ T l, order T = .ok l → ∀ x ∈ l, x ∈ T) (hinc : 0 ≤ inc)
    (hrun : MES.iteratedAll (mesVCtx I.cost false P) I [] order inc fuel
      (I.budget / (numVoters (mesVCtx I.cost false P) : Nat)) prev = .ok Ws) :
    ∀ W ∈ Ws, Satisfies (settingOf I false P) (expand (approvalVoters I.cost false P)) false .ejr .none W ∧
      I.isFeasible W = true :=
  lift_iteratedAll (guarantee_cardinality I P hcost hB hnd hm) (fun _ _ h => satisfies_perm _ _ _ _ _ h)
    (mes_inputOK I false P hm hnd hcost) hord hB hinc hrun

theorem mes_iteratedAll_EJR_x (I : Inst) (P : List ((Pid → Bool) × Nat)) (order : List Pid → Except Err (List Pid))
    (Ws prev : List (List Pid)) (byCost : Bool) (inc : Rat) (fuel : Nat)
    (hcost : ∀ p ∈ I.projects, 0 < I.cost p) (hB : 0 < I.budget) (hnd : I.projects.Nodup) (hm : ∀ e ∈ P, 1 ≤ e.2)
    (hord : ∀ T l, order T = .ok l → ∀ x ∈ l, x ∈ T) (hinc : 0 ≤ inc)
    (hrun : MES.iteratedAll (mesVCtx I.cost byCost P) I [] order inc fuel
      (I.budget / (numVoters (mesVCtx I.cost byCost P) : Nat)) prev = .ok Ws) :
    ∀ W ∈ Ws, Satisfies (settingOf I byCost P) (expand (approvalVoters I.cost byCost P)) false .ejr
      (if byCost then .any else .one) W ∧ I.isFeasible W = true :=
  lift_iteratedAll (guarantee_x I P byCost hcost (le_of_lt hB) hnd hm) (fun _ _ h => satisfies_perm _ _ _ _ _ h)
    (mes_inputOK I byCost P hm hnd (fun p hp => le_of_lt (hcost p hp))) hord (le_of_lt hB) hinc hrun

/-- **the lazy implementation of the iterated rule** (what the library executes; `bin` = the binary-satisfaction
    shortcut): by `C02Lazy.iteratedLazy_eq_iterated` it returns what `MES.iterated` returns, for an order function
    that only depends on the SET of tied projects (every shipped rule: `Tie.order_perm_eq`) -/
theorem mes_iteratedLazy_EJR_x (I : Inst) (P : List ((Pid → Bool) × Nat)) (order : List Pid → Except Err (List Pid))
    (W prev : List Pid) (byCost bin : Bool) (inc : Rat) (fuel : Nat)
    (hcost : ∀ p ∈ I.projects, 0 < I.cost p) (hB : 0 < I.budget) (hnd : I.projects.Nodup) (hm : ∀ e ∈ P, 1 ≤ e.2)
    (hord : ∀ T l, order T = .ok l → ∀ x ∈ l, x ∈ T) (hne : ∀ T, T ≠ [] → order T ≠ .ok [])
    (hperm : ∀ l₁ l₂ : List Pid, l₁.Perm l₂ → order l₁ = order l₂) (hinc : 0 ≤ inc)
    (hrun : MESLazy.iteratedLazy (mesVCtx I.cost byCost P) I [] order bin inc fuel
      (I.budget / (numVoters (mesVCtx I.cost byCost P) : Nat)) prev = .ok W) :
    Satisfies (settingOf I byCost P) (expand (approvalVoters I.cost byCost P)) false .ejr
      (if byCost then .any else .one) W ∧ I.isFeasible W = true := by
  rw [(C02Lazy.iteratedLazy_eq_iterated _ I [] bin (mes_mult I.cost byCost P hm) hnd
    (fun p hp => le_of_lt (hcost p hp)) order hperm hord inc hinc fuel _
    (share_nonneg _ I (le_of_lt hB))).1 prev] at hrun
  exact mes_iterated_EJR_x I P order W prev byCost inc fuel hcost hB hnd hm hord hne hinc hrun

/-! ### a non-empty initial allocation -/

/-- `init ⊆ W` in every mode, for the profiles of this file (see `MES.variants_keep_init`) -/
theorem mes_variants_keep_init (I : Inst) (P : List ((Pid → Bool) × Nat)) (byCost : Bool) (init : List Pid)
    (order : List Pid → Except Err (List Pid)) (b0 inc : Rat)
    (hcost : ∀ p ∈ I.projects, 0 ≤ I.cost p) (hnd : I.projects.Nodup) (hm : ∀ e ∈ P, 1 ≤ e.2)
    (hinit : ∀ p ∈ init, p ∈ I.projects) (hinitnd : init.Nodup)
    (hord : ∀ T l, order T = .ok l → ∀ x ∈ l, x ∈ T) (hb0 : 0 ≤ b0) (hinc : 0 ≤ inc) :
    (∀ W, runAt (mesVCtx I.cost byCost P) I init order b0 = .ok W → ∀ p ∈ init, p ∈ W) ∧
    (∀ L, runAllAt (mesVCtx I.cost byCost P) I init order b0 = .ok L → ∀ W ∈ L, ∀ p ∈ init, p ∈ W) ∧
    (∀ fuel prev W, (∀ p ∈ init, p ∈ prev) →
      iterated (mesVCtx I.cost byCost P) I init order inc fuel b0 prev = .ok W → ∀ p ∈ init, p ∈ W) ∧
    (∀ fuel prev Ws, (∀ W ∈ prev, ∀ p ∈ init, p ∈ W) →
      iteratedAll (mesVCtx I.cost byCost P) I init order inc fuel b0 prev = .ok Ws →
      ∀ W ∈ Ws, ∀ p ∈ init, p ∈ W) :=
  variants_keep_init ⟨mes_mult I.cost byCost P hm, hnd, hinit, hinitnd, hcost⟩ hord hb0 hinc

/-! ### the hypotheses are satisfiable: a real tie, and an iterated run that takes two increments -/

/-- two voters approving the unit-cost projects 0 and 1, voter 0 also project 2; budget 1 (share 1/2): projects 0 and 1
    tie at price 1/2 per unit, whichever is bought exhausts both voters -/
def tieI : Inst := ⟨[0, 1, 2], fun _ => 1, 1⟩
def tieP : List ((Pid → Bool) × Nat) := [(fun _ => true, 1), (fun p => p != 2, 1)]
def tieOrder : List Pid → Except Err (List Pid) := Tie.lexico.order tieI.cost (fun _ => 0)

theorem tieEx_hyps :
    (∀ p ∈ tieI.projects, 0 < tieI.cost p) ∧ 0 < tieI.budget ∧ tieI.projects.Nodup ∧
    (∀ e ∈ tieP, 1 ≤ e.2) ∧ (∀ T l, tieOrder T = .ok l → ∀ x ∈ l, x ∈ T) ∧
    (∀ T, T ≠ [] → tieOrder T ≠ .ok []) := by
  refine ⟨?_, by norm_num [tieI], by decide, ?_, (tie_order_ok .lexico _ _ (by decide)).1,
    (tie_order_ok .lexico _ _ (by decide)).2⟩
  · intro p _
    show (0 : Rat) < 1
    norm_num
  · intro e he
    simp only [tieP, List.mem_cons, List.not_mem_nil, or_false] at he
    rcases he with rfl | rfl <;> simp

/-- two irresolute outcomes, under either measure; the resolute lexicographic run returns the first -/
theorem tieEx_run (byCost : Bool) :
    MES.runAll (mesVCtx tieI.cost byCost tieP) tieI [] tieOrder = .ok [[0], [1]] ∧
    MES.run (mesVCtx tieI.cost byCost tieP) tieI [] tieOrder = .ok [0] := by
  cases byCost <;> constructor <;> decide +kernel

/-- the two voters together are `{0}`-cohesive (cost 1, 1·2 ≤ 2·1) and `{0}` is disjoint from the second irresolute
    outcome `[1]`: the theorems are used on a cohesive group whose project was not bought -/
theorem tieEx_cohesive (byCost : Bool) :
    AdmP (settingOf tieI byCost tieP) false .ejr (expand (approvalVoters tieI.cost byCost tieP)) [0] := by
  refine ⟨?_, by simp [approvalVoters, expand, tieP], by simp, Or.inr ?_⟩
  · show costOf tieI.cost [0] * ((sumNat tieP (fun e => e.2) : Nat) : Rat) ≤ _
    norm_num [costOf, sumOver, sumNat, tieI, tieP, approvalVoters, expand, settingOf]
  · intro v hv p hp
    have hp0 : p = 0 := by simpa using hp
    subst hp0
    simp [approvalVoters, expand, tieP] at hv
    rcases hv with rfl | rfl <;> rfl

theorem tieEx_conclusion :
    (∀ W ∈ [[0], [1]], Satisfies (settingOf tieI true tieP) (expand (approvalVoters tieI.cost true tieP)) false
      .ejr .any W) ∧
    (∀ W ∈ [[0], [1]], Satisfies (settingOf tieI false tieP) (expand (approvalVoters tieI.cost false tieP)) false
      .ejr .none W) := by
  obtain ⟨h1, h2, h3, h4, h5, _⟩ := tieEx_hyps
  exact ⟨mes_irresolute_EJR_any_cost _ _ _ _ h1 (le_of_lt h2) h3 h4 h5 (tieEx_run true).1,
    mes_irresolute_EJR_cardinality _ _ _ _ (fun p hp => le_of_lt (h1 p hp)) (le_of_lt h2) h3 h4 h5
      (tieEx_run false).1⟩

/-- two voters approving `{1, 2}` and `{2, 3}`, costs 2, 2, 3, budget 4 (share 2), increment 1/2 -/
def itI : Inst := ⟨[1, 2, 3], fun p => if p = 3 then 3 else 2, 4⟩
def itP : List ((Pid → Bool) × Nat) := [(fun p => p == 1 || p == 2, 1), (fun p => p == 2 || p == 3, 1)]
def itOrder : List Pid → Except Err (List Pid) := Tie.lexico.order itI.cost (fun _ => 0)

theorem itEx_hyps :
    (∀ p ∈ itI.projects, 0 < itI.cost p) ∧ 0 < itI.budget ∧ itI.projects.Nodup ∧
    (∀ e ∈ itP, 1 ≤ e.2) ∧ (∀ T l, itOrder T = .ok l → ∀ x ∈ l, x ∈ T) ∧
    (∀ T, T ≠ [] → itOrder T ≠ .ok []) := by
  refine ⟨?_, by norm_num [itI], by decide, ?_, (tie_order_ok .lexico _ _ (by decide)).1,
    (tie_order_ok .lexico _ _ (by decide)).2⟩
  · intro p _
    show (0 : Rat) < if p = 3 then 3 else 2
    split <;> norm_num
  · intro e he
    simp only [itP, List.mem_cons, List.not_mem_nil, or_false] at he
    rcases he with rfl | rfl <;> simp

/-- per-voter budgets 2 and 5/2 buy only project 2 (not exhaustive: project 1 would still fit); budget 3 buys `[2, 1]`,
    which exhausts the original budget: two increments, and the answer differs from the plain rule's `[2]` -/
theorem itEx_run (byCost : Bool) :
    runAt (mesVCtx itI.cost byCost itP) itI [] itOrder 2 = .ok [2] ∧
    runAt (mesVCtx itI.cost byCost itP) itI [] itOrder (5 / 2) = .ok [2] ∧
    runAt (mesVCtx itI.cost byCost itP) itI [] itOrder 3 = .ok [2, 1] ∧
    itI.isExhaustiveOver (initPool (mesVCtx itI.cost byCost itP) itI []) [2] = false ∧
    MES.run (mesVCtx itI.cost byCost itP) itI [] itOrder = .ok [2] ∧
    MES.iterated (mesVCtx itI.cost byCost itP) itI [] itOrder (1 / 2) 5
      (itI.budget / (numVoters (mesVCtx itI.cost byCost itP) : Nat)) [] = .ok [2, 1] := by
  cases byCost <;> refine ⟨?_, ?_, ?_, ?_, ?_, ?_⟩ <;> decide +kernel

/-- the iterated outcome passes for the original budget 4 -/
theorem itEx_conclusion :
    Satisfies (settingOf itI true itP) (expand (approvalVoters itI.cost true itP)) false .ejr .any [2, 1] ∧
    Satisfies (settingOf itI false itP) (expand (approvalVoters itI.cost false itP)) false .ejr .none [2, 1] ∧
    itI.isFeasible [2, 1] = true := by
  obtain ⟨h1, h2, h3, h4, h5, h6⟩ := itEx_hyps
  have ha := mes_iterated_EJR_any_cost _ _ _ _ _ _ _ h1 (le_of_lt h2) h3 h4 h5 h6 (by norm_num) (itEx_run true).2.2.2.2.2
  have hc := mes_iterated_EJR_cardinality _ _ _ _ _ _ _ (fun p hp => le_of_lt (h1 p hp)) (le_of_lt h2) h3 h4 h5 h6
    (by norm_num) (itEx_run false).2.2.2.2.2
  exact ⟨ha.1, hc.1, ha.2⟩

end Pabu.JR
