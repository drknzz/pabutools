/-
  C07 — the recorded Equal Shares run is an exact, valid price system (model side).
  Property theorems and satisfiability examples; the lemmas they rest on are in
  PabuProofs/Lemmas/MES.lean.
-/
import PabuProofs.Lemmas.MES
namespace Pabu.C07
open MES

/-! ### One purchase -/

/-- only supporters of the bought project pay -/
theorem only_supporters_pay (V : VCtx) (b : Nat → Rat) (t : Pid) (r : Rat) (i : Nat)
    (h : ¬ 0 < V.u i t) : pay V b t r i = 0 :=
  pay_nonsupporter V b t r i h

/-- nobody pays more than they hold (and nobody is paid) -/
theorem no_overdraft (V : VCtx) (b : Nat → Rat) (t : Pid) (r : Rat) (i : Nat)
    (hb : 0 ≤ b i) (hr : 0 ≤ r) : 0 ≤ pay V b t r i ∧ pay V b t r i ≤ b i :=
  ⟨pay_nonneg V b t r i hb hr, pay_le V b t r i hb⟩

/-- every supporter pays min(own money, ρ × own utility) for the one common ρ -/
theorem common_price (V : VCtx) (b : Nat → Rat) (t : Pid) (r : Rat) (i : Nat)
    (h : 0 < V.u i t) : pay V b t r i = min (b i) (r * V.u i t) :=
  pay_supporter V b t r i h

/-- at the price `rho` computes, the payments weighted by multiplicity add up exactly to the cost -/
theorem payments_cover_cost {V : VCtx} {cost : Pid → Rat} {b : Nat → Rat} {t : Pid} {r : Rat}
    (hb : ∀ i ∈ V.vs, 0 ≤ b i) (hm : ∀ i ∈ V.vs, 1 ≤ V.m i) (hc : 0 < cost t)
    (hr : rho V cost b t = some r) :
    sumOver V.vs (fun i => (V.m i : Rat) * pay V b t r i) = cost t :=
  pay_total ⟨hb, hm⟩ hc hr

/-- conservation and no overdraft for one purchase: money held (with multiplicity) + money spent
    stays `B`, budgets stay non-negative, pool projects keep positive cost -/
theorem buy_conserves {V : VCtx} {cost : Pid → Rat} {B : Rat} (hm : ∀ i ∈ V.vs, 1 ≤ V.m i)
    {s : State} {t : Pid} (ht : t ∈ tied V cost s) (h : Inv V cost B s) :
    Inv V cost B (buy V cost s t) :=
  buy_inv hm ht h

/-! ### The recorded run -/

/-- all voters start with the same amount -/
theorem trace_first {V : VCtx} {I : Inst} {init : List Pid}
    {order : List Pid → Except Err (List Pid)}
    (hord : ∀ T l, order T = .ok l → ∀ x ∈ l, x ∈ T) {b0 : Rat} {n : Nat} {L : List Iteration}
    (hL : trace V I.cost order n (initState V I init b0) = .ok L) :
    ∃ it rest, L = it :: rest ∧ it.before = V.vs.map (fun _ => b0) := by
  obtain ⟨s', hrec, _⟩ := trace_recorded hord _ _ L hL
  exact hrec.head

/-- the starting amounts add up to the budget limit -/
theorem start_total (V : VCtx) (I : Inst) (hn : 0 < numVoters V) :
    sumOver V.vs (fun i => (V.m i : Rat) * (I.budget / (numVoters V : Nat))) = I.budget := by
  rw [sumOver_natCast_mul]; exact share_total V I hn

/-- consecutive iterations chain: the money after round k is the money before round k+1 -/
theorem trace_chain {V : VCtx} {cost : Pid → Rat} {order : List Pid → Except Err (List Pid)}
    (hord : ∀ T l, order T = .ok l → ∀ x ∈ l, x ∈ T) {n : Nat} {s : State} {L : List Iteration}
    (hL : trace V cost order n s = .ok L) :
    L.IsChain (fun a b => a.after = b.before) ∧
      ∀ (k : Nat) (hk : k + 1 < L.length), L[k].after = L[k + 1].before := by
  obtain ⟨s', hrec, _⟩ := trace_recorded hord _ _ L hL
  exact ⟨hrec.isChain, List.isChain_iff_getElem.mp hrec.isChain⟩

/-- every recorded round: the budgets before are non-negative; the recorded ρ is the price of the
    selected project under them, positive and least; the budgets after are those before minus the
    payments `pay`; the payments weighted by multiplicity add up exactly to the cost
    (shape of `pay`: `only_supporters_pay`, `no_overdraft`, `common_price`) -/
theorem trace_rounds {V : VCtx} {I : Inst} {init : List Pid} (h : InputOK V I init)
    {order : List Pid → Except Err (List Pid)}
    (hord : ∀ T l, order T = .ok l → ∀ x ∈ l, x ∈ T) {b0 : Rat} (hb0 : 0 ≤ b0) {n : Nat}
    {L : List Iteration} (hL : trace V I.cost order n (initState V I init b0) = .ok L) :
    ∀ it ∈ L, ∀ t, it.selected = some t → ∃ (b : Nat → Rat) (r : Rat),
      (∀ i ∈ V.vs, 0 ≤ b i) ∧ 0 < r ∧ it.rho = some r ∧ rho V I.cost b t = some r ∧
      it.before = V.vs.map b ∧ it.after = V.vs.map (fun i => b i - pay V b t r i) ∧
      sumOver V.vs (fun i => (V.m i : Rat) * pay V b t r i) = I.cost t ∧
      (∀ r', I.cost t ≤ sumOver V.vs (fun i => (V.m i : Rat) * pay V b t r' i) → r ≤ r') := by
  intro it hit t ht
  obtain ⟨s', hrec, _⟩ := trace_recorded hord _ _ L hL
  obtain ⟨st, r, hinv, htied, hrho, hbef, hr, haft⟩ :=
    hrec.round h.mult (initState_inv V I init b0 hb0 h.cost_nonneg) it hit t ht
  have hok : VOK V st.b := ⟨hinv.nonneg, h.mult⟩
  have hc : 0 < I.cost t := hinv.pool_pos t (tied_sub_pool htied)
  exact ⟨st.b, r, hinv.nonneg, rho_pos hok hc hrho, hr, hrho, hbef, haft, pay_total hok hc hrho,
    fun r' hr' => rho_least hok hc hrho r' (pay_sum V st.b t r' ▸ hr')⟩

/-- after the last round no remaining supported project can be paid by its supporters: the last
    entry selects nothing and every project of the initial pool was either selected in some round
    or costs more than its supporters hold at the end -/
theorem trace_terminal {V : VCtx} {I : Inst} {init : List Pid} (h : InputOK V I init)
    {order : List Pid → Except Err (List Pid)}
    (hord : ∀ T l, order T = .ok l → ∀ x ∈ l, x ∈ T)
    (hne : ∀ T, T ≠ [] → order T ≠ .ok []) {b0 : Rat} (hb0 : 0 ≤ b0)
    {L : List Iteration}
    (hL : trace V I.cost order (initPool V I init).length (initState V I init b0) = .ok L) :
    ∃ b : Nat → Rat, (∀ i ∈ V.vs, 0 ≤ b i) ∧ L.getLast? = some ⟨V.vs.map b, none, none, []⟩ ∧
      ∀ p ∈ initPool V I init,
        some p ∈ L.map (fun it => it.selected) ∨ budSum (sups V b p) < I.cost p :=
  MES.trace_terminal h hord hne hb0 hL

theorem stop_condition {V : VCtx} {cost : Pid → Rat} {s : State}
    (hb : ∀ i ∈ V.vs, 0 ≤ s.b i) (hm : ∀ i ∈ V.vs, 1 ≤ V.m i) (hc : ∀ p ∈ s.pool, 0 < cost p)
    (h : tied V cost s = []) : ∀ p ∈ s.pool, budSum (sups V s.b p) < cost p := by
  intro p hp
  exact (rho_none_iff ⟨hb, hm⟩ (hc p hp)).mp (tied_nil_iff.mp h p hp)

/-- requesting details never changes the outcome: the resolute run fails exactly when the record
    fails, and otherwise returns the initial allocation followed by the recorded selections -/
theorem trace_outcome {V : VCtx} {cost : Pid → Rat} {order : List Pid → Except Err (List Pid)}
    (hord : ∀ T l, order T = .ok l → ∀ x ∈ l, x ∈ T) (n : Nat) (s : State) :
    (rule V cost).run (orderIfTie order) n s =
      match trace V cost order n s with
      | .error e => .error e
      | .ok L => .ok (s.alloc ++ L.filterMap (fun it => it.selected)) :=
  trace_run hord n s

/-- money is conserved along the whole record: in the state the record stops in, money held plus
    the cost of everything bought equals the money handed out plus the cost of the initial projects -/
theorem trace_conservation {V : VCtx} {I : Inst} {init : List Pid} (h : InputOK V I init)
    {order : List Pid → Except Err (List Pid)}
    (hord : ∀ T l, order T = .ok l → ∀ x ∈ l, x ∈ T) {b0 : Rat} (hb0 : 0 ≤ b0) {n : Nat}
    {L : List Iteration} (hL : trace V I.cost order n (initState V I init b0) = .ok L) :
    ∃ b : Nat → Rat, (∀ i ∈ V.vs, 0 ≤ b i) ∧ L.getLast? = some ⟨V.vs.map b, none, none, []⟩ ∧
      sumOver V.vs (fun i => (V.m i : Rat) * b i) +
        costOf I.cost (init ++ zeroCost V I init ++ L.filterMap (fun it => it.selected)) =
      (numVoters V : Rat) * b0 + costOf I.cost init := by
  obtain ⟨s', hrec, _⟩ := trace_recorded hord _ _ L hL
  have hinv := (hrec.good h.mult (h.good hb0)).1
  exact ⟨s'.b, hinv.nonneg, hrec.last, hrec.alloc ▸ hinv.conserve⟩

/-! ### The hypotheses are satisfiable on a non-trivial input -/

def exV : VCtx := ⟨[0, 1, 2], fun i => i + 1, fun i p => if (i + p) % 2 = 0 then 1 else 0⟩
def exI : Inst := ⟨[0, 1, 2, 3], fun p => (p : Rat), 6⟩

/-- three voter entries with multiplicities 1,2,3, four projects (one of cost 0), one initial;
    the identity order function never fails and never returns an empty list on a non-empty set -/
example : InputOK exV exI [3] ∧ 0 ≤ exI.budget / (numVoters exV : Nat) ∧ 0 < numVoters exV ∧
    (∀ T l, (fun l => (Except.ok l : Except Err (List Pid))) T = .ok l → ∀ x ∈ l, x ∈ T) ∧
    (∀ T, T ≠ [] → (fun l => (Except.ok l : Except Err (List Pid))) T ≠ .ok []) := by
  exact ⟨⟨fun i _ => Nat.le_add_left 1 i, by decide, by decide, by decide, fun p _ => Nat.cast_nonneg p⟩,
    share_nonneg exV exI (by decide +kernel), by decide, fun T l h x hx => Except.ok.inj h ▸ hx,
    fun T hT h => hT (Except.ok.inj h)⟩

/-- the record of the run on this input: two purchases at price 1/2, then the stop entry -/
example : (match trace exV exI.cost (fun l => .ok l) (initPool exV exI [3]).length
      (initState exV exI [3] (exI.budget / (numVoters exV : Nat))) with
    | .error _ => none
    | .ok L => some (L.map (fun it => (it.before, it.selected, it.rho, it.after)))) =
    some [([1, 1, 1], some 1, some (1 / 2), [1, 1 / 2, 1]),
          ([1, 1 / 2, 1], some 2, some (1 / 2), [1 / 2, 1 / 2, 1 / 2]),
          ([1 / 2, 1 / 2, 1 / 2], none, none, [])] := by decide +kernel

end Pabu.C07
