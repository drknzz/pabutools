/-
  The generic round-based rule of `PabuModel.RoundRule`: the `Except`-valued runs the driver
  executes, for any order function; the pure runs as their special case for an order function
  that never fails; rule induction for well-formed rules; the run under a strict order and
  "irresolute = all strict orders" (C08).  Two rules whose runs agree: Lemmas/InStep.lean.
-/
import PabuModel.RoundRule
import PabuProofs.Lemmas.Basic
namespace Pabu
variable {σ : Type}

/-! ### The accumulating fold of `runAll` -/

/-- the loop body of `RoundRule.runAll` -/
def accStep {α β : Type} (f : α → Except Err (List β)) (acc : List β) (t : α) : Except Err (List β) := do
  let r ← f t
  pure (acc ++ r)

theorem accStep_ok {α β : Type} (f : α → Except Err (List β)) (acc : List β) (t : α) (r : List β)
    (h : f t = .ok r) : accStep f acc t = .ok (acc ++ r) := by
  unfold accStep; rw [h]; rfl

theorem accStep_error {α β : Type} (f : α → Except Err (List β)) (acc : List β) (t : α) (e : Err)
    (h : f t = .error e) : accStep f acc t = .error e := by
  unfold accStep; rw [h]; rfl

theorem foldlM_cons_ok {α β : Type} (g : List β → α → Except Err (List β)) (t : α) (ts : List α)
    (acc acc' : List β) (h : g acc t = .ok acc') :
    (t :: ts).foldlM g acc = ts.foldlM g acc' := by
  rw [List.foldlM_cons, h]; rfl

theorem foldlM_cons_error {α β : Type} (g : List β → α → Except Err (List β)) (t : α) (ts : List α)
    (acc : List β) (e : Err) (h : g acc t = .error e) :
    (t :: ts).foldlM g acc = .error e := by
  rw [List.foldlM_cons, h]; rfl

theorem foldlM_accStep_of_ok {α β : Type} (f : α → Except Err (List β)) (g : α → List β) :
    ∀ (ts : List α) (acc : List β), (∀ t ∈ ts, f t = .ok (g t)) →
      ts.foldlM (accStep f) acc = .ok (acc ++ ts.flatMap g)
  | [], acc, _ => by rw [List.flatMap_nil, List.append_nil]; rfl
  | t :: ts, acc, h => by
    rw [foldlM_cons_ok _ t ts acc _ (accStep_ok f acc t _ (h t List.mem_cons_self)),
      foldlM_accStep_of_ok f g ts _ fun x hx => h x (List.mem_cons_of_mem _ hx),
      List.flatMap_cons, List.append_assoc]

theorem foldlM_accStep_ok {α β : Type} (f : α → Except Err (List β)) (ts : List α) (acc L : List β)
    (h : ts.foldlM (accStep f) acc = .ok L) :
    (∀ t ∈ ts, ∃ r, f t = .ok r) ∧ ∀ W, W ∈ L ↔ W ∈ acc ∨ ∃ t ∈ ts, ∃ r, f t = .ok r ∧ W ∈ r := by
  induction ts generalizing acc with
  | nil =>
    obtain rfl : acc = L := Except.ok.inj h
    exact ⟨fun _ ht => (nomatch ht),
      fun W => ⟨Or.inl, by rintro (h | ⟨_, ht, _⟩); exacts [h, nomatch ht]⟩⟩
  | cons t ts ih =>
    cases hf : f t with
    | error e => rw [foldlM_cons_error _ t ts acc e (accStep_error f acc t e hf)] at h; cases h
    | ok r =>
      rw [foldlM_cons_ok _ t ts acc _ (accStep_ok f acc t r hf)] at h
      obtain ⟨hall, hmem⟩ := ih (acc ++ r) h
      refine ⟨fun x hx => ?_, fun W => ?_⟩
      · rcases List.mem_cons.mp hx with rfl | hx
        exacts [⟨r, hf⟩, hall x hx]
      · rw [hmem W, List.mem_append, or_assoc]
        refine or_congr_right ⟨?_, ?_⟩
        · rintro (hW | ⟨x, hx, hr⟩)
          exacts [⟨t, List.mem_cons_self, r, hf, hW⟩, ⟨x, List.mem_cons_of_mem _ hx, hr⟩]
        · rintro ⟨x, hx, r', hr', hW⟩
          rcases List.mem_cons.mp hx with rfl | hx
          · exact Or.inl (Except.ok.inj (hf.symm.trans hr') ▸ hW)
          · exact Or.inr ⟨x, hx, r', hr', hW⟩

theorem foldlM_accStep_congr {α β : Type} (f g : α → Except Err (List β)) :
    ∀ (ts : List α) (acc : List β), (∀ t ∈ ts, f t = g t) →
      ts.foldlM (accStep f) acc = ts.foldlM (accStep g) acc
  | [], _, _ => rfl
  | t :: ts, acc, h => by
    have ht : accStep f acc t = accStep g acc t := by unfold accStep; rw [h t List.mem_cons_self]
    rw [List.foldlM_cons, List.foldlM_cons, ht]
    exact bind_congr fun acc' => foldlM_accStep_congr f g ts acc' fun x hx =>
      h x (List.mem_cons_of_mem _ hx)

/-! ### One round -/

namespace RoundRule
variable (R : RoundRule σ)

theorem runAll_succ (order : List Pid → Except Err (List Pid)) (n : Nat) (s : σ) :
    R.runAll order (n + 1) s =
      if R.tied s = [] then .ok [R.out s]
      else match order (R.tied s) with
        | .error e => .error e
        | .ok ts => ts.foldlM (accStep (fun t => R.runAll order n (R.buy s t))) [] := by
  rw [RoundRule.runAll]; rfl

theorem mem_runAllP_zero {s : σ} {W : List Pid} : W ∈ R.runAllP 0 s ↔ W = R.out s :=
  List.mem_singleton

theorem mem_runAllP_succ {n : Nat} {s : σ} {W : List Pid} :
    W ∈ R.runAllP (n + 1) s ↔
      (R.tied s = [] ∧ W = R.out s) ∨ ∃ t ∈ R.tied s, W ∈ R.runAllP n (R.buy s t) := by
  rw [runAllP]
  split
  next h =>
    rw [List.mem_singleton]
    exact ⟨fun e => Or.inl ⟨h, e⟩, fun h' => h'.elim (·.2) fun ⟨_, ht, _⟩ => absurd (h ▸ ht) List.not_mem_nil⟩
  next h =>
    rw [List.mem_flatMap]
    exact ⟨Or.inr, fun h' => h'.resolve_left fun hh => h hh.1⟩

theorem out_mem_runAllP {s : σ} (h : R.tied s = []) (n : Nat) : R.out s ∈ R.runAllP n s := by
  cases n with
  | zero => exact R.mem_runAllP_zero.mpr rfl
  | succ n => exact R.mem_runAllP_succ.mpr (Or.inl ⟨h, rfl⟩)

theorem mem_runAllP_of_step {s : σ} {t : Pid} {W : List Pid} {n : Nat}
    (ht : t ∈ R.tied s) (hlt : (R.pool (R.buy s t)).length < (R.pool s).length) (hn : (R.pool s).length ≤ n)
    (h : ∀ n', (R.pool (R.buy s t)).length ≤ n' → W ∈ R.runAllP n' (R.buy s t)) : W ∈ R.runAllP n s := by
  cases n with
  | zero => exact absurd (Nat.lt_of_lt_of_le hlt hn) (Nat.not_lt_zero _)
  | succ n =>
    exact R.mem_runAllP_succ.mpr (Or.inr ⟨t, ht, h n (Nat.le_of_lt_succ (Nat.lt_of_lt_of_le hlt hn))⟩)

theorem run_succ_ok_iff {order : List Pid → Except Err (List Pid)} {n : Nat} {s : σ}
    {W : List Pid} :
    R.run order (n + 1) s = .ok W ↔
      ((R.tied s ≠ [] → order (R.tied s) = .ok []) ∧ W = R.out s) ∨
      ∃ t r, R.tied s ≠ [] ∧ order (R.tied s) = .ok (t :: r) ∧ R.run order n (R.buy s t) = .ok W := by
  rw [run]
  by_cases hT : R.tied s = []
  · simp [hT, eq_comm]
  · cases ho : order (R.tied s) with
    | error e => simp [hT]
    | ok l =>
      cases l with
      | nil => simp [hT, eq_comm]
      | cons t r => simp [hT]

theorem runAll_succ_ok {order : List Pid → Except Err (List Pid)} {n : Nat} {s : σ}
    {L : List (List Pid)} (h : R.runAll order (n + 1) s = .ok L) :
    (R.tied s = [] ∧ L = [R.out s]) ∨
      ∃ ts, R.tied s ≠ [] ∧ order (R.tied s) = .ok ts ∧
        (∀ t ∈ ts, ∃ r, R.runAll order n (R.buy s t) = .ok r) ∧
        ∀ W, W ∈ L ↔ ∃ t ∈ ts, ∃ r, R.runAll order n (R.buy s t) = .ok r ∧ W ∈ r := by
  rw [runAll_succ] at h
  split at h
  next hT => exact .inl ⟨hT, (Except.ok.inj h).symm⟩
  next hT =>
    split at h
    next => cases h
    next ts ho =>
      obtain ⟨hall, hmem⟩ := foldlM_accStep_ok _ ts [] L h
      exact .inr ⟨ts, hT, ho, hall, fun W => (hmem W).trans (or_iff_right List.not_mem_nil)⟩

/-! ### Invariants lift to the outcomes -/

theorem run_inv (order : List Pid → Except Err (List Pid))
    (Inv : σ → Prop)
    (hord : ∀ T l, order T = .ok l → ∀ x ∈ l, x ∈ T)
    (hbuy : ∀ s t, Inv s → t ∈ R.tied s → Inv (R.buy s t)) :
    ∀ n s W, Inv s → R.run order n s = .ok W → ∃ s', Inv s' ∧ W = R.out s' := by
  intro n
  induction n with
  | zero => intro s W hs h; exact ⟨s, hs, (Except.ok.inj h).symm⟩
  | succ n ih =>
    intro s W hs h
    rcases R.run_succ_ok_iff.mp h with ⟨_, rfl⟩ | ⟨t, r, _, ho, h'⟩
    · exact ⟨s, hs, rfl⟩
    · exact ih _ W (hbuy s t hs (hord _ _ ho t List.mem_cons_self)) h'

theorem runAll_inv (order : List Pid → Except Err (List Pid))
    (Inv : σ → Prop)
    (hord : ∀ T l, order T = .ok l → ∀ x ∈ l, x ∈ T)
    (hbuy : ∀ s t, Inv s → t ∈ R.tied s → Inv (R.buy s t)) :
    ∀ n s L, Inv s → R.runAll order n s = .ok L → ∀ W ∈ L, ∃ s', Inv s' ∧ W = R.out s' := by
  intro n
  induction n with
  | zero =>
    intro s L hs h W hW
    obtain rfl : [R.out s] = L := Except.ok.inj h
    exact ⟨s, hs, List.mem_singleton.mp hW⟩
  | succ n ih =>
    intro s L hs h W hW
    rcases R.runAll_succ_ok h with ⟨_, rfl⟩ | ⟨ts, _, ho, _, hmem⟩
    · exact ⟨s, hs, List.mem_singleton.mp hW⟩
    · obtain ⟨t, ht, r, hr, hWr⟩ := (hmem W).mp hW
      exact ih _ r (hbuy s t hs (hord _ _ ho t ht)) hr W hWr

theorem runAllP_inv (Inv : σ → Prop)
    (hbuy : ∀ s t, Inv s → t ∈ R.tied s → Inv (R.buy s t)) :
    ∀ n s, Inv s → ∀ W ∈ R.runAllP n s, ∃ s', Inv s' ∧ W = R.out s' := by
  intro n
  induction n with
  | zero => intro s hs W hW; exact ⟨s, hs, R.mem_runAllP_zero.mp hW⟩
  | succ n ih =>
    intro s hs W hW
    rcases R.mem_runAllP_succ.mp hW with ⟨_, rfl⟩ | ⟨t, ht, hW⟩
    · exact ⟨s, hs, rfl⟩
    · exact ih _ (hbuy s t hs ht) W hW

/-! ### Any order function: totality, and the outcomes against the pure irresolute run -/

theorem run_total (order : List Pid → Except Err (List Pid))
    (htot : ∀ T, ∃ l, order T = .ok l) : ∀ n s, ∃ W, R.run order n s = .ok W := by
  intro n
  induction n with
  | zero => intro s; exact ⟨_, rfl⟩
  | succ n ih =>
    intro s
    rw [run]
    split
    · exact ⟨_, rfl⟩
    · obtain ⟨l, hl⟩ := htot (R.tied s)
      rw [hl]
      cases l with
      | nil => exact ⟨_, rfl⟩
      | cons t r => exact ih _

theorem runAll_total (order : List Pid → Except Err (List Pid))
    (htot : ∀ T, ∃ l, order T = .ok l) : ∀ n s, ∃ L, R.runAll order n s = .ok L := by
  intro n
  induction n with
  | zero => intro s; exact ⟨_, rfl⟩
  | succ n ih =>
    intro s
    choose g hg using ih
    rw [runAll_succ]
    split
    · exact ⟨_, rfl⟩
    · obtain ⟨l, hl⟩ := htot (R.tied s)
      rw [hl]
      exact ⟨_, foldlM_accStep_of_ok _ (fun t => g (R.buy s t)) l [] fun t _ => hg _⟩

/-- `P`: an invariant of purchases under which a non-empty pool always has a tied project.  With fuel ≥ pool
    length a successful run then returns the outcome of a state with an EMPTY pool. -/
theorem run_exhausts (order : List Pid → Except Err (List Pid))
    (P : σ → Prop)
    (hord : ∀ T l, order T = .ok l → ∀ x ∈ l, x ∈ T)
    (hne : ∀ T, T ≠ [] → order T ≠ .ok [])
    (hbuy : ∀ s t, P s → t ∈ R.tied s → P (R.buy s t))
    (hprog : ∀ s, P s → R.pool s ≠ [] → R.tied s ≠ [])
    (hdec : ∀ s t, t ∈ R.tied s → (R.pool (R.buy s t)).length < (R.pool s).length) :
    ∀ n s W, P s → (R.pool s).length ≤ n → R.run order n s = .ok W →
      ∃ s', P s' ∧ W = R.out s' ∧ R.pool s' = [] := by
  intro n
  induction n with
  | zero =>
    intro s W hs hlen h
    cases h
    exact ⟨s, hs, rfl, List.eq_nil_of_length_eq_zero (Nat.le_zero.mp hlen)⟩
  | succ n ih =>
    intro s W hs hlen h
    rcases R.run_succ_ok_iff.mp h with ⟨h0, rfl⟩ | ⟨t, r, _, ho, h'⟩
    · exact ⟨s, hs, rfl, Classical.not_not.mp fun hp =>
        have hT := hprog s hs hp
        hne _ hT (h0 hT)⟩
    · have ht : t ∈ R.tied s := hord _ _ ho t List.mem_cons_self
      exact ih _ W (hbuy s t hs ht) (Nat.le_of_lt_succ (Nat.lt_of_lt_of_le (hdec s t ht) hlen)) h'

theorem runAll_exhausts (order : List Pid → Except Err (List Pid))
    (P : σ → Prop)
    (hord : ∀ T l, order T = .ok l → ∀ x ∈ l, x ∈ T)
    (hne : ∀ T, T ≠ [] → order T ≠ .ok [])
    (hbuy : ∀ s t, P s → t ∈ R.tied s → P (R.buy s t))
    (hprog : ∀ s, P s → R.pool s ≠ [] → R.tied s ≠ [])
    (hdec : ∀ s t, t ∈ R.tied s → (R.pool (R.buy s t)).length < (R.pool s).length) :
    ∀ n s L, P s → (R.pool s).length ≤ n → R.runAll order n s = .ok L →
      L ≠ [] ∧ ∀ W ∈ L, ∃ s', P s' ∧ W = R.out s' ∧ R.pool s' = [] := by
  intro n
  induction n with
  | zero =>
    intro s L hs hlen h
    cases h
    exact ⟨List.cons_ne_nil _ _, fun W hW =>
      ⟨s, hs, List.mem_singleton.mp hW, List.eq_nil_of_length_eq_zero (Nat.le_zero.mp hlen)⟩⟩
  | succ n ih =>
    intro s L hs hlen h
    rcases R.runAll_succ_ok h with ⟨hT, rfl⟩ | ⟨ts, hT, ho, hall, hmem⟩
    · exact ⟨List.cons_ne_nil _ _, fun W hW =>
        ⟨s, hs, List.mem_singleton.mp hW, Classical.not_not.mp fun hp => hprog s hs hp hT⟩⟩
    · have hbranch : ∀ t ∈ ts, ∀ r, R.runAll order n (R.buy s t) = .ok r →
          r ≠ [] ∧ ∀ W ∈ r, ∃ s', P s' ∧ W = R.out s' ∧ R.pool s' = [] := by
        intro t ht r hr
        have htt : t ∈ R.tied s := hord _ _ ho t ht
        exact ih _ r (hbuy s t hs htt) (Nat.le_of_lt_succ (Nat.lt_of_lt_of_le (hdec s t htt) hlen)) hr
      constructor
      · -- there is a first branch, its outcomes are not lost and there is one
        obtain ⟨t, ht⟩ := List.exists_mem_of_ne_nil ts fun e => hne _ hT (e ▸ ho)
        obtain ⟨r, hr⟩ := hall t ht
        obtain ⟨W, hW⟩ := List.exists_mem_of_ne_nil r (hbranch t ht r hr).1
        exact List.ne_nil_of_mem ((hmem W).mpr ⟨t, ht, r, hr, hW⟩)
      · intro W hW
        obtain ⟨t, ht, r, hr, hWr⟩ := (hmem W).mp hW
        exact (hbranch t ht r hr).2 W hWr

theorem runAll_sub_runAllP (order : List Pid → Except Err (List Pid))
    (hord : ∀ T l, order T = .ok l → ∀ x ∈ l, x ∈ T) :
    ∀ n s L, R.runAll order n s = .ok L → ∀ W ∈ L, W ∈ R.runAllP n s := by
  intro n
  induction n with
  | zero =>
    intro s L h W hW
    obtain rfl : [R.out s] = L := Except.ok.inj h
    exact hW
  | succ n ih =>
    intro s L h W hW
    rcases R.runAll_succ_ok h with ⟨hT, rfl⟩ | ⟨ts, _, ho, _, hmem⟩
    · exact List.mem_singleton.mp hW ▸ R.out_mem_runAllP hT _
    · obtain ⟨t, ht, r, hr, hWr⟩ := (hmem W).mp hW
      exact R.mem_runAllP_succ.mpr (.inr ⟨t, hord _ _ ho t ht, ih _ r hr W hWr⟩)

theorem runAll_mem_iff_of (order : List Pid → Except Err (List Pid))
    (hord : ∀ T l, order T = .ok l → l.Perm T) (n : Nat) :
    ∀ s Ws, R.runAll order n s = .ok Ws → ∀ W, W ∈ Ws ↔ W ∈ R.runAllP n s := by
  intro s Ws h W
  refine ⟨R.runAll_sub_runAllP order (fun T l e _ hx => (hord T l e).mem_iff.mp hx) n s Ws h W, ?_⟩
  induction n generalizing s Ws W with
  | zero =>
    intro hW
    obtain rfl : [R.out s] = Ws := Except.ok.inj h
    exact hW
  | succ n ih =>
    intro hW
    rcases R.runAll_succ_ok h with ⟨hT, rfl⟩ | ⟨ts, hT, ho, hall, hmem⟩
    · rcases R.mem_runAllP_succ.mp hW with ⟨_, rfl⟩ | ⟨t, ht, _⟩
      · exact List.mem_singleton_self _
      · exact absurd (hT ▸ ht) List.not_mem_nil
    · rcases R.mem_runAllP_succ.mp hW with ⟨hT', _⟩ | ⟨t, ht, hW⟩
      · exact absurd hT' hT
      · have ht' := (hord _ _ ho).mem_iff.mpr ht
        obtain ⟨r, hr⟩ := hall t ht'
        exact (hmem W).mpr ⟨t, ht', r, hr, ih _ r hr W hW⟩

/-! ### Order functions that never fail: the pure runs -/

theorem runP_of_nil {ord : List Pid → List Pid} {s : σ} (h : ord (R.tied s) = []) (n : Nat) :
    R.runP ord n s = R.out s := by
  cases n with
  | zero => rfl
  | succ n => rw [runP, h]

theorem runP_succ_of_cons {ord : List Pid → List Pid} {s : σ} {t : Pid} {r : List Pid}
    (h : ord (R.tied s) = t :: r) (n : Nat) : R.runP ord (n + 1) s = R.runP ord n (R.buy s t) := by
  rw [runP, h]

/-- `ord [] = []` is needed because `run` stops on an empty tied set before consulting the order -/
theorem run_eq_runP (ord : List Pid → List Pid) (h0 : ord [] = []) :
    ∀ n s, R.run (fun l => .ok (ord l)) n s = .ok (R.runP ord n s) := by
  intro n
  induction n with
  | zero => intro s; rfl
  | succ n ih =>
    intro s
    rw [run, runP]
    by_cases hT : R.tied s = []
    · rw [if_pos hT, hT, h0]
    · rw [if_neg hT]
      cases ho : ord (R.tied s) with
      | nil => rfl
      | cons t r => exact ih _

theorem run_eq_runP_of (order : List Pid → Except Err (List Pid)) (ord : List Pid → List Pid)
    (hne : ord [] = []) (h : ∀ T, order T = .ok (ord T)) (n : Nat) (s : σ) :
    R.run order n s = .ok (R.runP ord n s) := by
  obtain rfl : order = fun T => .ok (ord T) := funext h
  exact R.run_eq_runP ord hne n s

theorem runP_inv (ord : List Pid → List Pid) (Inv : σ → Prop)
    (hord : ∀ T, ∀ x ∈ ord T, x ∈ T)
    (hbuy : ∀ s t, Inv s → t ∈ R.tied s → Inv (R.buy s t)) :
    ∀ n s, Inv s → ∃ s', Inv s' ∧ R.runP ord n s = R.out s' := by
  intro n s hs
  have h0 : ord [] = [] := List.eq_nil_iff_forall_not_mem.mpr fun x hx => List.not_mem_nil (hord [] x hx)
  exact R.run_inv (fun l => .ok (ord l)) Inv (fun T _ h => Except.ok.inj h ▸ hord T) hbuy n s _ hs
    (R.run_eq_runP ord h0 n s)

theorem runAll_mem_iff (ord : List Pid → List Pid)
    (hord : ∀ T, (ord T).Perm T) (n : Nat) (s : σ) :
    ∃ L, R.runAll (fun l => .ok (ord l)) n s = .ok L ∧ ∀ W, W ∈ L ↔ W ∈ R.runAllP n s := by
  obtain ⟨L, hL⟩ := R.runAll_total _ (fun _ => ⟨_, rfl⟩) n s
  exact ⟨L, hL, R.runAll_mem_iff_of _ (fun _ _ h => Except.ok.inj h ▸ hord _) n s L hL⟩

end RoundRule

/-! ### Well-formed rules -/

/-- the two structural facts every instance has to provide -/
structure RoundRule.WF (R : RoundRule σ) : Prop where
  tied_sub : ∀ s, ∀ x ∈ R.tied s, x ∈ R.pool s
  pool_buy : ∀ s t, t ∈ R.tied s → ∀ x ∈ R.pool (R.buy s t), x ∈ R.pool s ∧ x ≠ t

theorem RoundRule.WF.pool_sub {R : RoundRule σ} (hR : R.WF) {π : List Pid} {s : σ} {t : Pid}
    (ht : t ∈ R.tied s) (h : ∀ x ∈ R.pool s, x ∈ π) : ∀ x ∈ R.pool (R.buy s t), x ∈ π :=
  fun x hx => h x (hR.pool_buy s t ht x hx).1

theorem RoundRule.WF.tied_nil {R : RoundRule σ} (hR : R.WF) {s : σ} (h : R.pool s = []) : R.tied s = [] :=
  List.eq_nil_iff_forall_not_mem.mpr fun x hx => List.not_mem_nil (h ▸ hR.tied_sub s x hx)

namespace RoundRule
variable (R : RoundRule σ)

section Rec
variable {Inv : σ → Prop} {P : σ → List Pid → Prop}
  (hbuy : ∀ s t, Inv s → t ∈ R.tied s →
    Inv (R.buy s t) ∧ (R.pool (R.buy s t)).length < (R.pool s).length)
  (hstop : ∀ s, Inv s → R.tied s = [] → P s (R.out s))
include hbuy hstop

/-- rule induction along the irresolute run, with fuel for the whole pool -/
theorem runAllP_rec (hR : R.WF)
    (hstep : ∀ s t W, Inv s → t ∈ R.tied s → P (R.buy s t) W → P s W) (n : Nat) :
    ∀ s, Inv s → (R.pool s).length ≤ n → ∀ W ∈ R.runAllP n s, P s W := by
  induction n with
  | zero =>
    intro s hs hn W hW
    rw [R.mem_runAllP_zero.mp hW]
    exact hstop s hs (hR.tied_nil (List.length_eq_zero_iff.mp (Nat.le_zero.mp hn)))
  | succ n ih =>
    intro s hs hn W hW
    rcases R.mem_runAllP_succ.mp hW with ⟨hT, rfl⟩ | ⟨t, ht, hW⟩
    · exact hstop s hs hT
    · obtain ⟨hs', hlt⟩ := hbuy s t hs ht
      exact hstep s t W hs ht (ih _ hs' (Nat.le_of_lt_succ (Nat.lt_of_lt_of_le hlt hn)) W hW)

/-- the same along the resolute `Except` run; `order` may raise, or drop tied projects (not all) -/
theorem run_rec (hR : R.WF) (order : List Pid → Except Err (List Pid))
    (hord : ∀ T l, order T = .ok l → (∀ x ∈ l, x ∈ T) ∧ (T ≠ [] → l ≠ []))
    (hstep : ∀ s t r W, Inv s → order (R.tied s) = .ok (t :: r) → P (R.buy s t) W → P s W) (n : Nat) :
    ∀ s W, Inv s → (R.pool s).length ≤ n → R.run order n s = .ok W → P s W := by
  induction n with
  | zero =>
    intro s W hs hn h
    obtain rfl : R.out s = W := Except.ok.inj h
    exact hstop s hs (hR.tied_nil (List.length_eq_zero_iff.mp (Nat.le_zero.mp hn)))
  | succ n ih =>
    intro s W hs hn h
    rcases R.run_succ_ok_iff.mp h with ⟨h0, rfl⟩ | ⟨t, r, _, ho, h'⟩
    · exact hstop s hs (by_contra fun hT => (hord _ _ (h0 hT)).2 hT rfl)
    · obtain ⟨hs', hlt⟩ := hbuy s t hs ((hord _ _ ho).1 t List.mem_cons_self)
      exact hstep s t r W hs ho (ih _ W hs' (Nat.le_of_lt_succ (Nat.lt_of_lt_of_le hlt hn)) h')

end Rec
end RoundRule

/-! ### Strict orders -/

def pick (π : List Pid) (T : List Pid) : Option Pid := π.find? (fun x => T.contains x)

/-- the order function of a permutation rule, as a total function -/
def permOrd (π : List Pid) (T : List Pid) : List Pid := π.filter (fun x => T.contains x)

theorem permOrd_head (π T : List Pid) : (permOrd π T).head? = pick π T :=
  List.head?_filter

theorem pick_mem {π T : List Pid} {t : Pid} (h : pick π T = some t) : t ∈ T ∧ t ∈ π :=
  ⟨List.contains_iff_mem.mp (List.find?_some h), List.mem_of_find?_eq_some h⟩

theorem pick_none {π T : List Pid} (h : pick π T = none) (hT : ∀ x ∈ T, x ∈ π) : T = [] :=
  List.eq_nil_iff_forall_not_mem.mpr fun x hx =>
    List.find?_eq_none.mp h x (hT x hx) (List.contains_iff_mem.mpr hx)

theorem pick_prefix (pre : List Pid) (t : Pid) (rest T : List Pid)
    (hpre : ∀ x ∈ pre, x ∉ T) (ht : t ∈ T) : pick (pre ++ t :: rest) T = some t := by
  have hnone : pre.find? (fun x => T.contains x) = none :=
    List.find?_eq_none.mpr fun x hx h => hpre x hx (List.contains_iff_mem.mp h)
  rw [pick, List.find?_append, hnone, Option.none_or,
    List.find?_cons_of_pos (List.contains_iff_mem.mpr ht)]

theorem pick_nil (π : List Pid) : pick π [] = none :=
  List.find?_eq_none.mpr fun _ _ h => List.not_mem_nil (List.contains_iff_mem.mp h)

/-- resolute run under the strict order π -/
def RoundRule.runPi (R : RoundRule σ) (π : List Pid) : Nat → σ → List Pid
  | 0, s => R.out s
  | n + 1, s =>
    match pick π (R.tied s) with
    | none => R.out s
    | some t => R.runPi π n (R.buy s t)

theorem runP_permOrd (R : RoundRule σ) (π : List Pid) : ∀ n s, R.runP (permOrd π) n s = R.runPi π n s := by
  intro n
  induction n with
  | zero => intro s; rfl
  | succ n ih =>
    intro s
    rw [RoundRule.runP, RoundRule.runPi, ← permOrd_head]
    cases permOrd π (R.tied s) with
    | nil => rfl
    | cons t r => exact ih _

/-! ### Irresolute = all strict orders (C08) -/

/-- soundness, for any invariant of the run that keeps the tied projects inside `π` -/
theorem RoundRule.runPi_mem_runAllP (R : RoundRule σ) (π : List Pid) (Inv : σ → Prop)
    (hπ : ∀ s, Inv s → ∀ x ∈ R.tied s, x ∈ π)
    (hbuy : ∀ s t, Inv s → t ∈ R.tied s → Inv (R.buy s t)) :
    ∀ n s, Inv s → R.runPi π n s ∈ R.runAllP n s := by
  intro n
  induction n with
  | zero => intro s _; exact R.mem_runAllP_zero.mpr rfl
  | succ n ih =>
    intro s hs
    rw [RoundRule.runPi, R.mem_runAllP_succ]
    cases hp : pick π (R.tied s) with
    | none => exact .inl ⟨pick_none hp (hπ s hs), rfl⟩
    | some t => exact .inr ⟨t, (pick_mem hp).1, ih _ (hbuy s t hs (pick_mem hp).1)⟩

/-- the invariant "every tied project occurs in `π`", when EVERY purchase (of a tied project or
    not, from a reachable state or not) preserves it -/
theorem run_mem_runAll (R : RoundRule σ) (π : List Pid) :
    ∀ n s, (∀ x ∈ R.tied s, x ∈ π) →
      (∀ s' t, (∀ x ∈ R.tied s', x ∈ π) → ∀ x ∈ R.tied (R.buy s' t), x ∈ π) →
      R.runPi π n s ∈ R.runAllP n s :=
  fun n s hπ hclosed => R.runPi_mem_runAllP π (fun s => ∀ x ∈ R.tied s, x ∈ π) (fun _ h => h)
    (fun s t h _ => hclosed s t h) n s hπ

/-- completeness; the witness works under any prefix of already-decided projects and any suffix -/
theorem runAll_realised (R : RoundRule σ) (hR : R.WF) :
    ∀ n s W, W ∈ R.runAllP n s →
      ∃ l : List Pid, l.Nodup ∧ (∀ x ∈ l, x ∈ R.pool s) ∧
        ∀ pre rest : List Pid, (∀ x ∈ pre, x ∉ R.pool s) → R.runPi (pre ++ l ++ rest) n s = W := by
  intro n
  induction n with
  | zero =>
    intro s W hW
    exact ⟨[], List.nodup_nil, fun _ h => (List.not_mem_nil h).elim,
      fun _ _ _ => (R.mem_runAllP_zero.mp hW).symm⟩
  | succ n ih =>
    intro s W hW
    rcases R.mem_runAllP_succ.mp hW with ⟨hT, rfl⟩ | ⟨t, ht, hW'⟩
    · refine ⟨[], List.nodup_nil, fun _ h => (List.not_mem_nil h).elim, fun pre rest _ => ?_⟩
      rw [RoundRule.runPi, hT, pick_nil]
    · obtain ⟨l, hnd, hsub, hrun⟩ := ih (R.buy s t) W hW'
      have hpb := hR.pool_buy s t ht
      refine ⟨t :: l, List.nodup_cons.mpr ⟨fun h => (hpb t (hsub t h)).2 rfl, hnd⟩, ?_,
        fun pre rest hpre => ?_⟩
      · intro x hx
        rcases List.mem_cons.mp hx with rfl | hx
        exacts [hR.tied_sub s _ ht, (hpb x (hsub x hx)).1]
      · -- `t` is the first tied project of `pre ++ t :: _`; after buying it, it joins the prefix
        rw [RoundRule.runPi, List.append_assoc, List.cons_append,
          pick_prefix pre t _ _ (fun x hx h => hpre x hx (hR.tied_sub s x h)) ht]
        have := hrun (pre ++ [t]) rest fun x hx h => by
          rcases List.mem_append.mp hx with hx | hx
          · exact hpre x hx (hpb x h).1
          · exact (hpb x h).2 (List.mem_singleton.mp hx)
        rwa [List.append_assoc, List.append_assoc, List.singleton_append] at this

theorem RoundRule.run_eq_runPi (R : RoundRule σ) (hR : R.WF) (π : List Pid)
    (order : List Pid → Except Err (List Pid))
    (hhead : ∀ T, (∀ x ∈ T, x ∈ π) → ∃ r, order T = .ok r ∧ r.head? = pick π T) :
    ∀ n s, (∀ x ∈ R.pool s, x ∈ π) → R.run order n s = .ok (R.runPi π n s) := by
  intro n
  induction n with
  | zero => intro s _; rfl
  | succ n ih =>
    intro s hπ
    rw [RoundRule.run, RoundRule.runPi]
    by_cases hT : R.tied s = []
    · rw [if_pos hT, hT, pick_nil]
    · obtain ⟨r, hr, hhd⟩ := hhead (R.tied s) fun x hx => hπ x (hR.tied_sub s x hx)
      rw [if_neg hT, hr, ← hhd]
      cases r with
      | nil => rfl
      | cons t r' => exact ih _ (hR.pool_sub (pick_mem hhd.symm).1 hπ)

theorem RoundRule.run_mem_runAllP (R : RoundRule σ) (order : List Pid → Except Err (List Pid))
    (hord : ∀ T l, order T = .ok l → ∀ x ∈ l, x ∈ T)
    (hne : ∀ T, T ≠ [] → order T ≠ .ok []) :
    ∀ n s W, R.run order n s = .ok W → W ∈ R.runAllP n s := by
  intro n
  induction n with
  | zero => intro s W h; exact R.mem_runAllP_zero.mpr (Except.ok.inj h).symm
  | succ n ih =>
    intro s W h
    rcases R.run_succ_ok_iff.mp h with ⟨h0, rfl⟩ | ⟨t, r, _, ho, h'⟩
    · exact R.out_mem_runAllP (by_contra fun hT => hne _ hT (h0 hT)) _
    · exact R.mem_runAllP_succ.mpr (.inr ⟨t, hord _ _ ho t List.mem_cons_self, ih _ W h'⟩)

/-! ### The canonicalisation of the irresolute outcomes -/

theorem canonOutcomes_nodup (Ls : List (List Pid)) : (canonOutcomes Ls).Nodup := dedup_nodup _

theorem mem_canonOutcomes_iff {Ls : List (List Pid)} {W : List Pid} :
    W ∈ canonOutcomes Ls ↔ ∃ W0 ∈ Ls, W = sortIds W0 := by
  simp only [canonOutcomes, mem_dedup_iff, List.mem_map, eq_comm]

/-- what `generalAll`, `Phragmen.runAll` and `MES.runAllAt` return: the name-sorted outcomes of the
    pure irresolute run -/
theorem RoundRule.runAll_canon_iff (R : RoundRule σ) (order : List Pid → Except Err (List Pid))
    (hord : ∀ T l, order T = .ok l → l.Perm T) {n : Nat} {s : σ} {Ws : List (List Pid)}
    (h : (R.runAll order n s).map canonOutcomes = .ok Ws) (W : List Pid) :
    W ∈ Ws ↔ ∃ W' ∈ R.runAllP n s, W = sortIds W' := by
  cases hr : R.runAll order n s with
  | error e => rw [hr] at h; cases h
  | ok ls =>
    rw [hr] at h
    obtain rfl : canonOutcomes ls = Ws := Except.ok.inj h
    rw [mem_canonOutcomes_iff]
    exact exists_congr fun W' => and_congr_left fun _ => R.runAll_mem_iff_of order hord n s ls hr W'

theorem RoundRule.runAll_canon (R : RoundRule σ) (ord : List Pid → List Pid)
    (hord : ∀ T, (ord T).Perm T) (n : Nat) (s : σ) :
    ∃ L, (R.runAll (fun l => .ok (ord l)) n s).map canonOutcomes = .ok L ∧ L.Nodup ∧
      ∀ W, W ∈ L ↔ ∃ W0 ∈ R.runAllP n s, W = sortIds W0 := by
  obtain ⟨L0, hL0, _⟩ := R.runAll_mem_iff ord hord n s
  have h : (R.runAll (fun l => .ok (ord l)) n s).map canonOutcomes = .ok (canonOutcomes L0) := by
    rw [hL0]; rfl
  exact ⟨_, h, canonOutcomes_nodup _,
    R.runAll_canon_iff _ (fun _ _ e => Except.ok.inj e ▸ hord _) h⟩

end Pabu
