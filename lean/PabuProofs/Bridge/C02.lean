/-
  Bridge C02 — the regenerated leaf formulas of the Method of Equal Shares (Gen/C02.lean, produced from the
  current source of pabutools/rules/mes/mes_rule.py on every run) are the formulas of the model
  (PabuModel/MES.lean): per-voter share, multiplicity-weighted budget / satisfaction, the sort key of the
  supporter sweep, who supports a project and which projects enter the pool, the affordability guard, one step
  of the sweep, the minimum / argmin of the round and the payment of a supporter.  The supporter loop as a whole
  (`Gen.C02.sweepLoop`, a statement-level leaf) computes the model's `sweep` and updates the round's best price
  and tied list as `sweepOutcome` says.
-/
import Gen.C02
import PabuProofs.Lemmas.MES
namespace Pabu.Bridge.C02

/-! ### the per-voter share -/

/-- `method_of_equal_shares` starts every voter with `frac(budget_limit, num_ballots)` -/
theorem voterShare (V : VCtx) (I : Inst) (init : List Pid) (order : List Pid → Except Err (List Pid)) :
    MES.run V I init order =
      MES.runAt V I init order (Gen.C02.voterShare I.budget ((MES.numVoters V : Nat) : Rat)) := rfl

theorem voterShare_all (V : VCtx) (I : Inst) (init : List Pid) (order : List Pid → Except Err (List Pid)) :
    MES.runAll V I init order =
      MES.runAllAt V I init order (Gen.C02.voterShare I.budget ((MES.numVoters V : Nat) : Rat)) := rfl

/-! ### multiplicity-weighted budget and satisfaction -/

/-- summand of `available_budget = Σ voters[i].total_budget()` -/
theorem totalBudget (s : Sup) (r : List Sup) :
    budSum (s :: r) = Gen.C02.totalBudget ((s.m : Nat) : Rat) s.b + budSum r := rfl

/-- summand of `total_sat += v.total_sat_project(p)` (as used for the sweep's denominator) -/
theorem totalSatProject (s : Sup) (r : List Sup) :
    utilSum (s :: r) = Gen.C02.totalSatProject ((s.m : Nat) : Rat) s.u + utilSum r := rfl

/-- `total_sat` of a project: Σ over the supporters of `total_sat_project` -/
theorem totalSat (V : VCtx) (p : Pid) :
    MES.totalSat V p =
      sumOver (MES.supporters V p) (fun i => Gen.C02.totalSatProject ((V.m i : Nat) : Rat) (V.u i p)) := rfl

/-- the sweep's initial denominator `project.total_sat` is the model's `utilSum` of the supporter entries -/
theorem utilSum_sups (V : VCtx) (b : Nat → Rat) (p : Pid) :
    utilSum (MES.sups V b p) = MES.totalSat V p := MES.utilSum_sups V b p

theorem budgetOverSat (s t : Sup) :
    ratioLe s t = decide (Gen.C02.budgetOverSat s.b s.u ≤ Gen.C02.budgetOverSat t.b t.u) := rfl

/-! ### who supports, which projects enter the pool -/

theorem isSupporter (V : VCtx) (p : Pid) :
    MES.supporters V p = V.vs.filter (fun i => Gen.C02.isSupporter (V.u i p)) := rfl

theorem initPool (V : VCtx) (I : Inst) (init : List Pid) :
    MES.initPool V I init =
      (sortIds I.projects).filter (fun p =>
        !init.contains p && Gen.C02.isSupported (MES.totalSat V p) && Gen.C02.hasPositiveCost (I.cost p)) := rfl

theorem zeroCost (V : VCtx) (I : Inst) (init : List Pid) :
    MES.zeroCost V I init =
      (sortIds I.projects).filter (fun p =>
        !init.contains p && Gen.C02.isSupported (MES.totalSat V p) && !Gen.C02.hasPositiveCost (I.cost p)) := rfl

/-! ### the price of a project -/

/-- the guard `available_budget < project.cost` -/
theorem unaffordable (V : VCtx) (cost : Pid → Rat) (b : Nat → Rat) (p : Pid) :
    MES.rho V cost b p =
      if Gen.C02.unaffordable (budSum (MES.sups V b p)) (cost p) = true then none
      else sweep (cost p) (utilSum (MES.sups V b p)) (sortLe ratioLe (MES.sups V b p)) := by
  unfold MES.rho Gen.C02.unaffordable
  simp only [decide_eq_true_eq]

/-- one iteration of the supporter loop of `mes_inner_algo`, `R = cost − current_contribution` -/
theorem sweep_step (cost contribution D : Rat) (s : Sup) (rest : List Sup) :
    sweep (cost - contribution) D (s :: rest) =
      if Gen.C02.canPay (Gen.C02.affordFactor cost contribution D) s.u s.b = true then
        some (Gen.C02.affordFactor cost contribution D)
      else
        sweep (cost - Gen.C02.nextContribution contribution (Gen.C02.totalBudget ((s.m : Nat) : Rat) s.b))
          (Gen.C02.nextDenominator D ((s.m : Nat) : Rat) s.u) rest := by
  unfold Gen.C02.canPay Gen.C02.affordFactor Gen.C02.nextContribution Gen.C02.nextDenominator Gen.C02.totalBudget
  rw [sweep]
  simp only [decide_eq_true_eq]
  have h : cost - contribution - (s.m : Rat) * s.b = cost - (contribution + (s.m : Rat) * s.b) := by ring
  rw [h]

/-- the first factor tried is the project's initial affordability `frac(p.cost, total_sat)`
    (`current_contribution = 0`, `denominator = total_sat`) -/
theorem initialAffordability (cost D : Rat) (s : Sup) (rest : List Sup) :
    sweep cost D (s :: rest) =
      if Gen.C02.canPay (Gen.C02.initialAffordability cost D) s.u s.b = true then
        some (Gen.C02.initialAffordability cost D)
      else
        sweep (cost - Gen.C02.nextContribution 0 (Gen.C02.totalBudget ((s.m : Nat) : Rat) s.b))
          (Gen.C02.nextDenominator D ((s.m : Nat) : Rat) s.u) rest := by
  have h := sweep_step cost 0 D s rest
  have e : Gen.C02.affordFactor cost 0 D = Gen.C02.initialAffordability cost D := by
    unfold Gen.C02.affordFactor Gen.C02.initialAffordability
    rw [sub_zero]
  rw [sub_zero, e] at h
  exact h

/-! ### the supporter sweep as a whole (statement-level leaf) -/

/-- what the sweep of project `p` leaves behind: its price (`project.affordability`), the best price of the round so far and the
    projects tied at it — `r` is the price the model's `sweep` finds (`none`: no supporter can pay, nothing changes) -/
def sweepOutcome (p : Nat) (aff : Rat) (best : Option Rat) (tied : List Nat) : Option Rat → Rat × Option Rat × List Nat
  | none => (aff, best, tied)
  | some r =>
    if Gen.C02.ltInf r best = true then (r, some r, [p])
    else if Gen.C02.eqInf r best = true then (r, best, tied ++ [p])
    else (r, best, tied)

/-- the WHOLE inner loop of `mes_inner_algo` (`for i in project.supporter_indices`, regenerated as `Gen.C02.sweepLoop`): run on the
    sorted supporters (money, utility, multiplicity) from `current_contribution = c`, `denominator = d` it computes exactly the
    price of the model's `sweep`, stores it as the project's affordability, and updates the round's best price / tied list as
    `sweepOutcome` says — the test precedes the update of the running totals, the first supporter who can pay ends the loop -/
theorem sweepLoop (cost : Rat) (p : Nat) : ∀ (sups : List Sup) (c d aff : Rat) (best : Option Rat) (tied : List Nat),
    (fun r => (r.2.2.1, r.2.2.2.1, r.2.2.2.2))
        (Gen.C02.sweepLoop cost p c d aff best tied (sups.map (fun s => (s.b, s.u, ((s.m : Nat) : Rat))))) =
      sweepOutcome p aff best tied (sweep (cost - c) d sups)
  | [], c, d, aff, best, tied => rfl
  | s :: rest, c, d, aff, best, tied => by
    rw [List.map_cons, Gen.C02.sweepLoop, sweep]
    by_cases h : (cost - c) / d * s.u ≤ s.b
    · simp only [h, decide_true, if_true, sweepOutcome]
      by_cases h1 : Gen.C02.ltInf ((cost - c) / d) best = true
      · simp [h1]
      · by_cases h2 : Gen.C02.eqInf ((cost - c) / d) best = true
        · simp [h1, h2]
        · simp [h1, h2]
    · simp only [h, decide_false, if_false, Bool.false_eq_true]
      have ih := sweepLoop cost p rest (c + (s.m : Rat) * s.b) (d - (s.m : Rat) * s.u) aff best tied
      have hc : cost - (c + (s.m : Rat) * s.b) = cost - c - (s.m : Rat) * s.b := by ring
      rw [hc] at ih
      exact ih

/-! ### minimum and argmin of the round -/

/-- `best_afford` is replaced exactly when `afford_factor < best_afford`: the model's running minimum -/
theorem improvesBest (x : Rat) (xs : List Rat) (y : Rat) (h : minRat xs = some y) :
    minRat (x :: xs) = some (if Gen.C02.improvesBest x y = true then x else y) := by
  unfold Gen.C02.improvesBest
  rw [minRat, h]
  simp only [decide_eq_true_eq]
  by_cases hlt : x < y
  · rw [if_pos (le_of_lt hlt), if_pos hlt]
  · by_cases hle : x ≤ y
    · have : x = y := le_antisymm hle (not_lt.mp hlt)
      rw [if_pos hle, if_neg hlt, this]
    · rw [if_neg hle, if_neg hlt]

theorem improvesBest_pair (x y : Rat) :
    minRat [x, y] = some (if Gen.C02.improvesBest x y = true then x else y) :=
  improvesBest x [y] y rfl

example : minRat [3, 2] = some (2 : Rat) := by
  rw [improvesBest_pair]; simp [Gen.C02.improvesBest]; norm_num

theorem best_not_improved (V : VCtx) (cost : Pid → Rat) (s : MES.State) (r : Rat)
    (h : MES.best V cost s = some r) (e : Pid × Rat) (he : e ∈ MES.affordable V cost s) :
    Gen.C02.improvesBest e.2 r = false := by
  have := (minRat_some h).2 e.2 (List.mem_map.mpr ⟨e, he, rfl⟩)
  exact decide_eq_false (not_lt.mpr this)

/-- the tied projects are those with `afford_factor == best_afford` -/
theorem tiesBest (V : VCtx) (cost : Pid → Rat) (s : MES.State) :
    MES.tied V cost s =
      match MES.best V cost s with
      | none => []
      | some r => ((MES.affordable V cost s).filter (fun e => Gen.C02.tiesBest e.2 r)).map Prod.fst := rfl

/-! ### the payment -/

theorem payment (V : VCtx) (b : Nat → Rat) (t : Pid) (r : Rat) (i : Nat) :
    MES.pay V b t r i =
      if Gen.C02.isSupporter (V.u i t) = true then Gen.C02.payment (b i) r (V.u i t) else 0 := by
  unfold MES.pay Gen.C02.isSupporter Gen.C02.payment
  simp only [gt_iff_lt, decide_eq_true_eq]

theorem payment_sum (rho : Rat) (s : Sup) (r : List Sup) :
    paySum rho (s :: r) = (s.m : Rat) * Gen.C02.payment s.b rho s.u + paySum rho r := rfl

end Pabu.Bridge.C02
