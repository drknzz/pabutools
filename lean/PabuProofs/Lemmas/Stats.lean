/-
  Lemmas about the statistics model: streaming mean, cumulative Gini, histogram bins, multiplicities.
-/
import PabuModel.Stats
import PabuProofs.Lemmas.Basic
import Mathlib.Tactic.Ring
import Mathlib.Tactic.NormNum
import Mathlib.Tactic.FieldSimp
namespace Pabu.Stats

/-! ### sums -/

theorem sumOver_const_mul {α : Type} (l : List α) (c : Rat) (f : α → Rat) :
    sumOver l (fun x => c * f x) = c * sumOver l f :=
  sumOver_mul_left c l f

theorem sumOver_nonneg {α : Type} (l : List α) (f : α → Rat) (h : ∀ x ∈ l, 0 ≤ f x) : 0 ≤ sumOver l f :=
  Pabu.sumOver_nonneg l f h

theorem sumNat_indicator {l : List Nat} (hl : l.Nodup) (c w : Nat) :
    sumNat l (fun k => if c = k then w else 0) = if c ∈ l then w else 0 := by
  induction l with
  | nil => rfl
  | cons a l ih =>
    obtain ⟨ha, hl⟩ := List.nodup_cons.1 hl
    rw [sumNat_cons, ih hl]
    by_cases hc : c = a
    · rw [if_pos hc, if_neg (hc ▸ ha), if_pos (hc ▸ List.mem_cons_self)]; rfl
    · rw [if_neg hc, Nat.zero_add]
      exact if_congr ⟨List.mem_cons_of_mem _, fun h => (List.mem_cons.1 h).resolve_left hc⟩ rfl rfl

theorem sumNat_bins {α : Type} (xs : List α) (g w : α → Nat) (bins : Nat) (h : ∀ e ∈ xs, g e < bins) :
    sumNat (List.range bins) (fun k => sumNat xs (fun e => if g e = k then w e else 0)) = sumNat xs w := by
  induction xs with
  | nil => exact sumNat_zero _
  | cons e es ih =>
    obtain ⟨he, hes⟩ := List.forall_mem_cons.1 h
    simp only [sumNat_cons]
    rw [sumNat_add, ih hes, sumNat_indicator List.nodup_range, if_pos (List.mem_range.2 he)]

/-! ### multiplicities: an entry with multiplicity `m` is `m` voters -/

theorem length_expand {α : Type} (xs : List (α × Nat)) :
    (expand xs).length = sumNat xs (fun e => e.2) := by
  induction xs with
  | nil => rfl
  | cons e es ih => simp only [expand, List.length_append, List.length_replicate, sumNat, ih]

theorem totalMult_cons (e : Rat × Nat) (es : Entries) : totalMult (e :: es) = e.2 + totalMult es := rfl

theorem weightedSum_cons (e : Rat × Nat) (es : Entries) :
    weightedSum (e :: es) = (e.2 : Rat) * e.1 + weightedSum es := rfl

theorem totalMult_eq_length (xs : Entries) : totalMult xs = (expand xs).length :=
  (length_expand xs).symm

theorem sumOver_expand {α : Type} (xs : List (α × Nat)) (f : α → Rat) :
    sumOver (expand xs) f = sumOver xs (fun e => (e.2 : Rat) * f e.1) := by
  induction xs with
  | nil => rfl
  | cons e es ih => simp only [expand, sumOver_append, sumOver_replicate, sumOver, ih]

theorem weightedSum_eq_sum (xs : Entries) : weightedSum xs = sumOver (expand xs) id :=
  (sumOver_expand xs id).symm

theorem countP_expand {α : Type} (xs : List (α × Nat)) (p : α → Bool) :
    (expand xs).countP p = sumNat xs (fun e => if p e.1 then e.2 else 0) := by
  induction xs with
  | nil => rfl
  | cons e es ih =>
    simp only [expand, List.countP_append, sumNat, ih, List.countP_replicate]

/-! ### the streaming mean -/

theorem meanRep_fst (x : Rat) (k n : Nat) (m : Rat) : (meanRep x k n m).1 = n + k := by
  induction k generalizing n m with
  | zero => rfl
  | succ k ih => rw [meanRep, ih]; omega

/-- invariant of the inner loop: `mean · n` is the running sum -/
theorem meanRep_snd (x : Rat) (k n : Nat) (m : Rat) :
    (meanRep x k n m).2 * ((n : Rat) + k) = m * n + k * x := by
  induction k generalizing n m with
  | zero => simp [meanRep]
  | succ k ih =>
    have hn : ((n + 1 : Nat) : Rat) ≠ 0 := Nat.cast_ne_zero.2 (Nat.succ_ne_zero n)
    -- the loop goes on from count `n + 1`; there the new mean times the count is the old sum plus `x`
    rw [meanRep, Nat.cast_add_one k, ← add_assoc, add_right_comm, ← Nat.cast_add_one n, ih,
      add_mul, div_mul_cancel₀ _ hn, Nat.cast_add_one]
    ring

theorem meanLoop_fst (xs : Entries) (n : Nat) (m : Rat) : (meanLoop xs n m).1 = n + totalMult xs := by
  induction xs generalizing n m with
  | nil => rfl
  | cons e es ih => rw [meanLoop, ih, meanRep_fst, totalMult_cons, Nat.add_assoc]

theorem meanLoop_snd (xs : Entries) (n : Nat) (m : Rat) :
    (meanLoop xs n m).2 * ((n : Rat) + totalMult xs) = m * n + weightedSum xs := by
  induction xs generalizing n m with
  | nil => simp [meanLoop, totalMult, weightedSum]
  | cons e es ih =>
    rw [meanLoop, meanRep_fst, totalMult_cons, weightedSum_cons,
      show (n : Rat) + ((e.2 + totalMult es : Nat) : Rat) = ((n + e.2 : Nat) : Rat) + totalMult es by
        push_cast; ring,
      ih, Nat.cast_add, meanRep_snd, add_assoc]

theorem meanLoop_zero (xs : Entries) (n : Nat) (m : Rat) (h : totalMult xs = 0) :
    meanLoop xs n m = (n, m) := by
  induction xs generalizing n m with
  | nil => rfl
  | cons e es ih =>
    obtain ⟨h1, h2⟩ := Nat.add_eq_zero_iff.1 (totalMult_cons e es ▸ h)
    rw [meanLoop, h1]
    exact ih n m h2

/-! ### Gini coefficient: cumulative formula = pairwise definition -/

/-- Σᵢ Σⱼ |xᵢ − xⱼ| -/
def pairAbs (l : List Rat) : Rat := sumOver l (fun x => sumOver l (fun y => |x - y|))

/-- the textbook Gini coefficient: mean absolute difference over twice the mean -/
def giniPairwise (l : List Rat) : Rat := pairAbs l / (2 * ((l.length : Nat) : Rat) * sumOver l id)

/-- weights `n, n-1, …, 1` along the list -/
def cumW : List Rat → Rat
  | [] => 0
  | v :: vs => v * ((vs.length + 1 : Nat) : Rat) + cumW vs

theorem cumFrom_eq (i : Nat) (l : List Rat) : cumFrom (i + l.length) i l = cumW l := by
  induction l generalizing i with
  | nil => rfl
  | cons v vs ih =>
    rw [cumFrom, cumW, List.length_cons, Nat.add_sub_cancel_left, ← ih (i + 1), Nat.add_right_comm, Nat.add_assoc]

theorem sumOver_abs_sub_of_le (a : Rat) (l : List Rat) (h : ∀ y ∈ l, a ≤ y) :
    sumOver l (fun y => |y - a|) = sumOver l id - (l.length : Rat) * a := by
  rw [sumOver_congr fun y hy => show |y - a| = id y - a by rw [abs_of_nonneg (sub_nonneg.2 (h y hy))]; rfl]
  rw [sumOver_sub, sumOver_const]

theorem pairAbs_sorted (l : List Rat) (hs : l.Pairwise (· ≤ ·)) :
    pairAbs l = 2 * ((l.length : Rat) + 1) * sumOver l id - 4 * cumW l := by
  induction l with
  | nil => simp [pairAbs, cumW]
  | cons a l ih =>
    rw [List.pairwise_cons] at hs
    have iha := ih hs.2
    unfold pairAbs at iha ⊢
    -- split off the head's row and the head's column of the square
    simp only [sumOver_cons, sumOver_add]
    rw [show (fun y => |a - y|) = fun y => |y - a| from funext (abs_sub_comm a), iha, sumOver_abs_sub_of_le a l hs.1]
    simp only [cumW, List.length_cons, sub_self, abs_zero, id]
    push_cast
    ring

theorem gini_arith (n W S : Rat) (hS : S ≠ 0) :
    (n + 1 - 2 * W / S) / n = (2 * (n + 1) * S - 4 * W) / (2 * n * S) := by
  field_simp
  ring

theorem sortRat_sorted (l : List Rat) : (sortRat l).Pairwise (· ≤ ·) := sortKey_sorted id l

theorem sortRat_perm (l : List Rat) : (sortRat l).Perm l := sortKey_perm id l

theorem pairAbs_perm {l₁ l₂ : List Rat} (h : l₁.Perm l₂) : pairAbs l₁ = pairAbs l₂ := by
  unfold pairAbs
  rw [sumOver_perm h]
  exact sumOver_congr fun x _ => sumOver_perm h _

theorem giniPairwise_perm {l₁ l₂ : List Rat} (h : l₁.Perm l₂) : giniPairwise l₁ = giniPairwise l₂ := by
  unfold giniPairwise
  rw [pairAbs_perm h, sumOver_perm h, h.length_eq]

theorem allNul_false_of_pos (xs : List Rat) (hnn : ∀ x ∈ xs, 0 ≤ x) (hpos : 0 < sumOver xs id) :
    allNul xs = false := by
  rw [← Bool.not_eq_true, allNul, List.all_eq_true]
  intro hc
  -- no value positive and none negative: all are 0, and so is their sum
  refine hpos.ne' (sumOver_eq_zero fun x hx => le_antisymm ?_ (hnn x hx))
  simpa using hc x hx

theorem allNul_of_zero (xs : List Rat) (h : ∀ x ∈ xs, x = 0) : allNul xs = true := by
  rw [allNul, List.all_eq_true]
  intro x hx
  rw [h x hx]
  simp

/-! ### histogram bins -/

theorem toNat_ceil_le_iff (q : Rat) (n : Nat) : (Rat.ceil q).toNat ≤ n ↔ q ≤ (n : Rat) := by
  rw [Int.toNat_le, Rat.ceil_le_iff, Int.cast_natCast]

theorem toNat_ceil_eq_iff {q : Rat} (hq : 0 ≤ q) (k : Nat) :
    (Rat.ceil q).toNat = k ↔ (k : Rat) - 1 < q ∧ q ≤ (k : Rat) := by
  have h0 : 0 ≤ Rat.ceil q := Int.le_of_sub_one_lt (Rat.lt_ceil_iff.2 (lt_of_lt_of_le (by norm_num) hq))
  -- for `z ≥ 0`: `z.toNat = k ↔ z = k ↔ k - 1 < z ∧ z ≤ k`; then the two characterisations of `ceil`
  rw [← Int.ofNat_inj, Int.toNat_of_nonneg h0, Int.le_antisymm_iff, and_comm, ← Int.sub_one_lt_iff,
    Rat.lt_ceil_iff, Rat.ceil_le_iff, Int.cast_sub, Int.cast_natCast, Int.cast_one]

theorem binOf_last (bins : Nat) (mx s : Rat) (h : mx ≤ s) : binOf bins mx s = bins - 1 := by
  unfold binOf; rw [if_pos h]

theorem binOf_lt (bins : Nat) (mx s : Rat) (hb : 0 < bins) (hs : 0 ≤ s) : binOf bins mx s < bins := by
  suffices h : binOf bins mx s ≤ bins - 1 by omega
  unfold binOf
  by_cases h : mx ≤ s
  · rw [if_pos h]
  · -- below the normaliser the quotient is at most `bins - 1`
    have hlt : s < mx := lt_of_not_ge h
    rw [if_neg h, toNat_ceil_le_iff, div_le_iff₀ (lt_of_le_of_lt hs hlt), mul_comm]
    exact mul_le_mul_of_nonneg_left hlt.le (Nat.cast_nonneg _)

theorem binOf_char (bins : Nat) (mx s : Rat) (k : Nat) (hs : 0 ≤ s) (hlt : s < mx) :
    binOf bins mx s = k ↔
      ((k : Rat) - 1 < s * ((bins - 1 : Nat) : Rat) / mx ∧ s * ((bins - 1 : Nat) : Rat) / mx ≤ (k : Rat)) := by
  rw [binOf, if_neg (not_le.mpr hlt)]
  exact toNat_ceil_eq_iff (div_nonneg (mul_nonneg hs (Nat.cast_nonneg _)) (hs.trans hlt.le)) k

theorem histCount_sum (bins : Nat) (mx : Rat) (xs : Entries) (hb : 0 < bins) (hs : ∀ e ∈ xs, 0 ≤ e.1) :
    sumNat (List.range bins) (histCount bins mx xs) = totalMult xs :=
  sumNat_bins xs (fun e => binOf bins mx e.1) (fun e => e.2) bins (fun e he => binOf_lt bins mx e.1 hb (hs e he))

theorem hist_sum (bins : Nat) (mx : Rat) (xs : Entries) (hb : 0 < bins) (hs : ∀ e ∈ xs, 0 ≤ e.1)
    (ht : 0 < totalMult xs) : sumOver (hist bins mx xs) id = 1 := by
  unfold hist
  rw [sumOver_map]
  simp only [id]
  rw [sumOver_div, ← sumNat_cast, histCount_sum bins mx xs hb hs]
  exact div_self (Nat.cast_ne_zero.2 ht.ne')

end Pabu.Stats
