/-
  C03 — the greedy welfare rule follows its definition and exhausts the budget.

  Model: PabuModel.Greedy (`general`, `generalAll`, `additive`; these are the functions the driver runs).
  Supporting lemmas: PabuProofs.Lemmas.Greedy.

  Vocabulary (PabuProofs.Lemmas.Greedy):
  * `WFInput I init`      — projects duplicate-free, costs ≥ 0, `init` duplicate-free ⊆ projects, cost init ≤ budget
  * `ValidOutcome I init W` — `W` duplicate-free, ⊆ projects, ⊇ init, cost W ≤ budget  (the C01 facts)
  * `Exhaustive I W`      — `∀ p ∈ projects, p ∉ W → budget < cost W + cost p`  (⇒ `I.isExhaustive W = true`)
  * `IsBest tsat I A t`   — `t` is an undecided project that fits after `A` and has the largest marginal
                            satisfaction per unit of cost among the undecided projects that fit (+∞ for cost 0)
  * `SpecRun tsat I order A W` — `W` is built from `A` by repeatedly adding the first project, in the order
                            `order`, of the best next projects, until nothing fits
  * `SpecRunAny tsat I A W` — same, adding any best next project (irresolute)
-/
import PabuProofs.Lemmas.Tie
namespace Pabu
namespace C03
open GreedyAux Greedy

/-! ### General path -/

/-- Resolute general path, any tie-breaking function that returns a permutation of the tied projects or
    raises: every returned allocation is valid, exhaustive, and is the one built by the definition. -/
theorem general_follows_definition (tsat : List Pid → Rat) (I : Inst) (init : List Pid) (hwf : WFInput I init)
    (order : List Pid → Except Err (List Pid)) (hord : ∀ T l, order T = .ok l → l.Perm T)
    (W : List Pid) (h : general tsat I init order = .ok W) :
    ValidOutcome I init W ∧ Exhaustive I W ∧ I.isExhaustive W = true ∧ SpecRun tsat I order init W :=
  have ⟨⟨hv, hex⟩, hspec⟩ := run_spec tsat I init hwf.cost_nonneg order (fun T l hl => perm_mem_ne (hord T l hl)) _ _ W
    (inv_init I init hwf.init_nodup hwf.init_sub hwf.init_cost) (le_refl _) h
  ⟨hv, hex, hex.isExhaustive, hspec⟩

/-- the same for the shipped tie-breaking rules (`refuse` raises in the first round that has a candidate) -/
theorem general_follows_definition_tie (tsat : List Pid → Rat) (I : Inst) (init : List Pid) (hwf : WFInput I init)
    (t : Tie) (sc : Pid → Nat) (W : List Pid) (h : general tsat I init (t.order I.cost sc) = .ok W) :
    ValidOutcome I init W ∧ Exhaustive I W ∧ I.isExhaustive W = true ∧
      SpecRun tsat I (t.order I.cost sc) init W :=
  general_follows_definition tsat I init hwf _ (Tie.order_perm _ _ _) W h

theorem runP_exhaustive (tsat : List Pid → Rat) (I : Inst) (init : List Pid) (hwf : WFInput I init)
    (ord : List Pid → List Pid) (hord : ∀ T, ∀ x ∈ ord T, x ∈ T) (hne : ∀ T, T ≠ [] → ord T ≠ [])
    (n : Nat) (hn : (initState I init).feasible.length ≤ n) :
    ValidOutcome I init ((rule tsat I).runP ord n (initState I init)) ∧
      Exhaustive I ((rule tsat I).runP ord n (initState I init)) := by
  have h0 : ord [] = [] := List.eq_nil_iff_forall_not_mem.mpr fun x hx => List.not_mem_nil (hord [] x hx)
  exact (run_spec tsat I init hwf.cost_nonneg (fun T => .ok (ord T))
    (fun T l h => Except.ok.inj h ▸ ⟨hord T, hne T⟩) n _ _
    (inv_init I init hwf.init_nodup hwf.init_sub hwf.init_cost) hn (RoundRule.run_eq_runP _ ord h0 n _)).1

theorem runAllP_exhaustive (tsat : List Pid → Rat) (I : Inst) (init : List Pid) (hwf : WFInput I init)
    (n : Nat) (hn : (initState I init).feasible.length ≤ n) :
    ∀ W ∈ (rule tsat I).runAllP n (initState I init), ValidOutcome I init W ∧ Exhaustive I W :=
  fun W hW => (runAllP_spec tsat I init hwf.cost_nonneg n _
    (inv_init I init hwf.init_nodup hwf.init_sub hwf.init_cost) hn W hW).1

/-- with a total tie-breaking function the resolute general path always returns -/
theorem general_returns (tsat : List Pid → Rat) (I : Inst) (init : List Pid) (t : Tie) (ht : t ≠ .refuse)
    (sc : Pid → Nat) : ∃ W, general tsat I init (t.order I.cost sc) = .ok W :=
  ⟨_, RoundRule.run_eq_runP_of _ _ _ rfl (Tie.order_ok ht I.cost sc) _ _⟩

/-- "At the moment it is bought": in every round the candidates of the model are exactly the best next
    projects (state invariant `Inv` holds of every reachable state: `inv_init`, `inv_buy`). -/
theorem bought_is_best (tsat : List Pid → Rat) (I : Inst) (init : List Pid) (s : State) (hs : Inv I init s)
    (t : Pid) : t ∈ (rule tsat I).tied s ↔ IsBest tsat I s.alloc t :=
  mem_tied_iff_isBest tsat hs t

theorem bought_is_argmax (tsat : List Pid → Rat) (I : Inst) (s : State) (t : Pid)
    (ht : t ∈ (rule tsat I).tied s) :
    t ∈ s.feasible ∧ ∀ q ∈ s.feasible,
      ERat.le (marginal tsat I.cost s.alloc q) (marginal tsat I.cost s.alloc t) = true :=
  (mem_tied_iff tsat I.cost s t).mp ht

theorem stops_iff_nothing_fits (tsat : List Pid → Rat) (I : Inst) (s : State) :
    (rule tsat I).tied s = [] ↔ s.feasible = [] := tied_eq_nil_iff tsat I.cost s

/-- Irresolute pure run = exactly the allocations the irresolute definition can build. -/
theorem runAllP_iff_spec (tsat : List Pid → Rat) (I : Inst) (init : List Pid) (hwf : WFInput I init)
    (n : Nat) (hn : (initState I init).feasible.length ≤ n) (W : List Pid) :
    W ∈ (rule tsat I).runAllP n (initState I init) ↔ SpecRunAny tsat I init W :=
  have hinv := inv_init I init hwf.init_nodup hwf.init_sub hwf.init_cost
  ⟨fun h => (runAllP_spec tsat I init hwf.cost_nonneg n _ hinv hn W h).2,
   fun h => runAllP_complete tsat I init hwf.cost_nonneg h n _ hinv rfl hn⟩

theorem spec_outcome_good (tsat : List Pid → Rat) (I : Inst) (init : List Pid) (hwf : WFInput I init)
    (W : List Pid) (h : SpecRunAny tsat I init W) : ValidOutcome I init W ∧ Exhaustive I W :=
  runAllP_exhaustive tsat I init hwf _ (le_refl _) W ((runAllP_iff_spec tsat I init hwf _ (le_refl _) W).mpr h)

/-- Irresolute executable run (`generalAll`): the returned list is exactly the set of name-sorted
    allocations the irresolute definition can build; each is valid and exhaustive. -/
theorem generalAll_follows_definition (tsat : List Pid → Rat) (I : Inst) (init : List Pid) (hwf : WFInput I init)
    (order : List Pid → Except Err (List Pid)) (hord : ∀ T l, order T = .ok l → l.Perm T)
    (Ws : List (List Pid)) (h : generalAll tsat I init order = .ok Ws) :
    (∀ W ∈ Ws, ValidOutcome I init W ∧ Exhaustive I W ∧ I.isExhaustive W = true) ∧
    (∀ W, W ∈ Ws ↔ ∃ W', SpecRunAny tsat I init W' ∧ W = sortIds W') := by
  have hmem := RoundRule.runAll_canon_iff (rule tsat I) order hord h
  refine ⟨fun W hW => ?_, fun W => ?_⟩
  · obtain ⟨W', hW', rfl⟩ := (hmem W).mp hW
    obtain ⟨hv, hex⟩ := runAllP_exhaustive tsat I init hwf _ (le_refl _) W' hW'
    have hex' := hex.perm (sortIds_perm W')
    exact ⟨hv.perm (sortIds_perm W'), hex', hex'.isExhaustive⟩
  · rw [hmem]
    exact exists_congr fun W' => and_congr_left fun _ => runAllP_iff_spec tsat I init hwf _ (le_refl _) W'

theorem generalAll_follows_definition_tie (tsat : List Pid → Rat) (I : Inst) (init : List Pid) (hwf : WFInput I init)
    (t : Tie) (sc : Pid → Nat) (Ws : List (List Pid)) (h : generalAll tsat I init (t.order I.cost sc) = .ok Ws) :
    (∀ W ∈ Ws, ValidOutcome I init W ∧ Exhaustive I W ∧ I.isExhaustive W = true) ∧
    (∀ W, W ∈ Ws ↔ ∃ W', SpecRunAny tsat I init W' ∧ W = sortIds W') :=
  generalAll_follows_definition tsat I init hwf _ (Tie.order_perm _ _ _) Ws h

/-! ### Additive fast path -/

theorem pass_spec (cost : Pid → Rat) (l : List Pid) (rem : Rat) (hl : l.Nodup) (hrem : 0 ≤ rem)
    (hc : ∀ p ∈ l, 0 ≤ cost p) :
    (pass cost rem l).Nodup ∧ (∀ p ∈ pass cost rem l, p ∈ l) ∧ costOf cost (pass cost rem l) ≤ rem ∧
      ∀ p ∈ l, p ∉ pass cost rem l → rem < costOf cost (pass cost rem l) + cost p :=
  ⟨pass_nodup cost l rem hl, pass_subset cost l rem, pass_cost_le cost l rem hrem, pass_exhaustive cost l rem hc⟩

/-- Additive fast path: every returned allocation is valid and exhaustive. -/
theorem additive_exhaustive (score : Pid → Rat) (I : Inst) (init : List Pid) (hwf : WFInput I init)
    (order : List Pid → Except Err (List Pid)) (hord : ∀ T l, order T = .ok l → l.Perm T)
    (W : List Pid) (h : additive score I init order = .ok W) :
    ValidOutcome I init W ∧ Exhaustive I W ∧ I.isExhaustive W = true := by
  unfold additive at h
  split at h
  · cases h
  next ps ho =>
    obtain rfl := Except.ok.inj h
    have hp := (sortLe_perm (fun a b => ERat.le (density score I.cost b) (density score I.cost a)) ps).trans
      (hord _ _ ho)
    have ⟨hv, hex⟩ := pass_good hwf (hp.nodup_iff.mpr ((sortIds_nodup hwf.projects_nodup).filter _))
      fun p => hp.mem_iff.trans mem_candidates
    exact ⟨hv, hex, hex.isExhaustive⟩

theorem additive_exhaustive_tie (score : Pid → Rat) (I : Inst) (init : List Pid) (hwf : WFInput I init)
    (t : Tie) (sc : Pid → Nat) (W : List Pid) (h : additive score I init (t.order I.cost sc) = .ok W) :
    ValidOutcome I init W ∧ Exhaustive I W ∧ I.isExhaustive W = true :=
  additive_exhaustive score I init hwf _ (Tie.order_perm _ _ _) W h

/-- For an additive satisfaction (`AdditiveSat tsat score`: adding `p` to any allocation gains `score p`;
    instances `additiveSat_sumOver`, `additiveSat_voters`) with non-negative scores and a consistent tie-breaking (every tied list is
    returned in one fixed strict order `lt`), both paths return, and they select the same set. -/
theorem additive_eq_general (tsat : List Pid → Rat) (score : Pid → Rat) (htsat : AdditiveSat tsat score) (I : Inst) (init : List Pid) (hwf : WFInput I init)
    (hscore : ∀ p ∈ I.projects, 0 ≤ score p)
    (order : List Pid → Except Err (List Pid)) (ord : List Pid → List Pid) (lt : Pid → Pid → Prop)
    (hasym : ∀ a b, lt a b → lt b a → False)
    (hordP : ∀ T : List Pid, T.Nodup → (ord T).Perm T ∧ (ord T).Pairwise lt)
    (horder : ∀ T, order T = .ok (ord T)) :
    ∃ Wa Wg, additive score I init order = .ok Wa ∧
      general tsat I init order = .ok Wg ∧ Wa.Perm Wg :=
  Greedy.additive_eq_general tsat score htsat I init hwf hscore order ord lt hasym hordP horder

theorem additive_eq_general_tie (tsat : List Pid → Rat) (score : Pid → Rat) (htsat : AdditiveSat tsat score) (I : Inst) (init : List Pid) (hwf : WFInput I init)
    (hscore : ∀ p ∈ I.projects, 0 ≤ score p) (t : Tie) (ht : t ≠ .refuse) (sc : Pid → Nat) :
    ∃ Wa Wg, additive score I init (t.order I.cost sc) = .ok Wa ∧
      general tsat I init (t.order I.cost sc) = .ok Wg ∧ Wa.Perm Wg :=
  Greedy.additive_eq_general tsat score htsat I init hwf hscore (t.order I.cost sc) (t.ord I.cost sc)
    (tieLt (t.key I.cost sc)) (tieLt_asymm _) (fun T hT => tie_order_sorted _ T hT) (Tie.order_ok ht I.cost sc)

/-- same set ⇒ same name-sorted list (what the library returns is compared as a set) -/
theorem perm_sortIds_eq {Wa Wg : List Pid} (h : Wa.Perm Wg) (hnd : Wg.Nodup) : sortIds Wa = sortIds Wg :=
  have _ := hnd
  sortIds_unique h

/-! ### The hypotheses are satisfiable on a concrete non-trivial input

  projects 0,1,2,3 with costs 2,3,0,5 (project 2 is free, project 3 never fits), budget 4,
  additive scores 3,4,0,1.  The model returns `[2, 0]` on the general path and `[0, 2]` on the fast path,
  the same set. -/

def exI : Inst := ⟨[0, 1, 2, 3], fun p => if p = 0 then 2 else if p = 1 then 3 else if p = 2 then 0 else 5, 4⟩
def exScore : Pid → Rat := fun p => if p = 0 then 3 else if p = 1 then 4 else if p = 2 then 0 else 1

theorem exI_wf (init : List Pid) (h1 : init.Nodup) (h2 : ∀ p ∈ init, p ∈ exI.projects)
    (h3 : costOf exI.cost init ≤ exI.budget) : WFInput exI init where
  projects_nodup := by decide
  cost_nonneg := by decide
  init_nodup := h1
  init_sub := h2
  init_cost := h3

example : WFInput exI [] := exI_wf [] (by decide) (by decide) (by decide)
example : WFInput exI [2] := exI_wf [2] (by decide) (by decide) (show (0 : Rat) + 0 ≤ 4 by norm_num)

example : ∀ p ∈ exI.projects, 0 ≤ exScore p := by decide

/-- the tie-breaking hypothesis of the general theorems holds of every shipped rule -/
example (t : Tie) (sc : Pid → Nat) : ∀ T l, t.order exI.cost sc T = .ok l → l.Perm T :=
  Tie.order_perm t _ sc

/-- the hypotheses of `additive_eq_general` hold of the lexicographic rule -/
example : ∀ T : List Pid, T.Nodup →
    (sortKey (Tie.lexico.key exI.cost (fun _ => 0)) (sortIds T)).Perm T ∧
    (sortKey (Tie.lexico.key exI.cost (fun _ => 0)) (sortIds T)).Pairwise
      (tieLt (Tie.lexico.key exI.cost (fun _ => 0))) :=
  fun T hT => tie_order_sorted _ T hT

example : ∃ Wa Wg, additive exScore exI [] (Tie.lexico.order exI.cost (fun _ => 0)) = .ok Wa ∧
    general (fun l => sumOver l exScore) exI [] (Tie.lexico.order exI.cost (fun _ => 0)) = .ok Wg ∧ Wa.Perm Wg :=
  additive_eq_general_tie _ exScore (additiveSat_sumOver exScore) exI []
    (exI_wf [] (by decide) (by decide) (by decide)) (by decide) Tie.lexico (by decide) (fun _ => 0)

end C03
end Pabu

#print axioms Pabu.C03.general_follows_definition
#print axioms Pabu.C03.general_follows_definition_tie
#print axioms Pabu.C03.general_returns
#print axioms Pabu.C03.runP_exhaustive
#print axioms Pabu.C03.runAllP_exhaustive
#print axioms Pabu.C03.bought_is_best
#print axioms Pabu.C03.runAllP_iff_spec
#print axioms Pabu.C03.generalAll_follows_definition
#print axioms Pabu.C03.additive_exhaustive
#print axioms Pabu.C03.additive_eq_general
#print axioms Pabu.C03.additive_eq_general_tie
#print axioms Pabu.C03.perm_sortIds_eq
