/-
  Lemmas about the instance predicates of `PabuModel.Election` (C15, shared with C10): feasibility, the
  cheapest-first count `maxCardinality`, and the brute-force optima `maxCostSpec` / `maxScoreSpec`; last, five
  facts of `Lemmas/Basic.lean` under the names `Pabu.Election.*` that the checks audit.
-/
import PabuModel.Election
import PabuProofs.Lemmas.Basic
namespace Pabu

theorem Inst.isFeasible_iff (I : Inst) (l : List Pid) : I.isFeasible l = true ↔ costOf I.cost l ≤ I.budget :=
  decide_eq_true_iff

theorem Inst.isFeasible_append (I : Inst) (l₁ l₂ : List Pid) :
    I.isFeasible (l₁ ++ l₂) = true ↔ costOf I.cost l₁ + costOf I.cost l₂ ≤ I.budget := by
  rw [I.isFeasible_iff, costOf_append]

theorem Inst.isFeasible_perm (I : Inst) {l₁ l₂ : List Pid} (h : l₁.Perm l₂) : I.isFeasible l₁ = I.isFeasible l₂ := by
  unfold Inst.isFeasible Inst.totalCost
  rw [costOf_perm I.cost h]

theorem Inst.isTrivial_eq (I : Inst) :
    I.isTrivial =
      (decide (I.totalCost I.projects ≤ I.budget) || I.projects.all (fun p => decide (I.budget < I.cost p))) := by
  unfold Inst.isTrivial
  congr 1
  cases h : minRat (I.projects.map I.cost) with
  | none => simp [List.map_eq_nil_iff.mp (minRat_eq_none.mp h)]
  | some c => exact ((all_lt_of_minRat_some h I.budget).symm.trans List.all_map)

theorem MES.isExhaustiveOver_of_subset (I : Inst) {avail W : List Pid} (h : ∀ p ∈ avail, p ∈ W) :
    I.isExhaustiveOver avail W = true := by
  unfold Inst.isExhaustiveOver
  rw [List.all_eq_true]
  intro p hp
  rw [List.contains_iff_mem.mpr (h p hp)]
  rfl

namespace Election

/-! ### cheapest-first counting -/

theorem cheapestCount_nil (budget acc : Rat) : cheapestCount budget acc [] = 0 := rfl

theorem cheapestCount_cons_of_gt {budget acc c : Rat} (cs : List Rat) (h : acc + c > budget) :
    cheapestCount budget acc (c :: cs) = 0 := by
  rw [cheapestCount, if_pos h]

theorem cheapestCount_cons_of_not_gt {budget acc c : Rat} (cs : List Rat) (h : ¬ acc + c > budget) :
    cheapestCount budget acc (c :: cs) = cheapestCount budget (acc + c) cs + 1 := by
  rw [cheapestCount, if_neg h]

theorem cheapestCount_le_length (budget : Rat) (cs : List Rat) (acc : Rat) : cheapestCount budget acc cs ≤ cs.length := by
  induction cs generalizing acc with
  | nil => exact Nat.le_refl 0
  | cons c cs ih =>
    by_cases h : acc + c > budget
    · rw [cheapestCount_cons_of_gt cs h]; exact Nat.zero_le _
    · rw [cheapestCount_cons_of_not_gt cs h]; exact Nat.succ_le_succ (ih _)

theorem cheapestCount_prefix_fits (budget : Rat) (cs : List Rat) (acc : Rat) (hacc : acc ≤ budget) :
    acc + sumOver (cs.take (cheapestCount budget acc cs)) id ≤ budget := by
  induction cs generalizing acc with
  | nil => simpa using hacc
  | cons c cs ih =>
    by_cases h : acc + c > budget
    · rw [cheapestCount_cons_of_gt cs h]; simpa using hacc
    · rw [cheapestCount_cons_of_not_gt cs h, List.take_succ_cons, sumOver_cons, id, ← add_assoc]
      exact ih (acc + c) (not_lt.mp h)

theorem cheapestCount_prefix_max (budget : Rat) (cs : List Rat) (acc : Rat) (hnn : ∀ x ∈ cs, 0 ≤ x) (j : Nat)
    (hj : j ≤ cs.length) (hfit : acc + sumOver (cs.take j) id ≤ budget) : j ≤ cheapestCount budget acc cs := by
  induction cs generalizing acc j with
  | nil => exact hj
  | cons c cs ih =>
    cases j with
    | zero => exact Nat.zero_le _
    | succ j =>
      rw [List.take_succ_cons, sumOver_cons, id, ← add_assoc] at hfit
      have hS : 0 ≤ sumOver (cs.take j) id :=
        sumOver_nonneg _ _ fun x hx => hnn x (List.mem_cons_of_mem _ (List.mem_of_mem_take hx))
      rw [cheapestCount_cons_of_not_gt cs (not_lt.mpr (le_trans (le_add_of_nonneg_right hS) hfit))]
      exact Nat.succ_le_succ (ih (acc + c) (fun x hx => hnn x (List.mem_cons_of_mem _ hx)) j
        (Nat.le_of_succ_le_succ hj) hfit)

/-- exchange argument: in an ascending list, the first `|t|` terms sum to at most any sub-list `t` -/
theorem sorted_prefix_le_sublist (cs : List Rat) (hs : cs.Pairwise (fun a b => a ≤ b)) (t : List Rat)
    (ht : t.Sublist cs) : sumOver (cs.take t.length) id ≤ sumOver t id := by
  induction cs generalizing t with
  | nil => rw [List.sublist_nil.mp ht]; exact le_refl _
  | cons c cs ih =>
    obtain ⟨hc, hcs⟩ := List.pairwise_cons.mp hs
    cases t with
    | nil => exact le_refl _
    | cons a t =>
      rw [List.length_cons, List.take_succ_cons, sumOver_cons, sumOver_cons]
      cases ht with
      | cons _ h =>
        -- `a :: t` lies inside `cs`: `c ≤ a`, and `t` is a sub-list of `cs`
        exact add_le_add (hc a (h.subset List.mem_cons_self)) (ih hcs t ((List.sublist_cons_self a t).trans h))
      | cons_cons _ h => exact add_le_add (le_refl _) (ih hcs t h)

theorem sorted_prefix_le_subperm (cs : List Rat) (hs : cs.Pairwise (fun a b => a ≤ b)) (t : List Rat)
    (ht : t.Subperm cs) : sumOver (cs.take t.length) id ≤ sumOver t id := by
  obtain ⟨t', hp, hsub⟩ := ht
  rw [← hp.length_eq, ← sumOver_perm hp]
  exact sorted_prefix_le_sublist cs hs t' hsub

/-! ### `maxCardinality` is the size of a largest feasible sub-list -/

theorem maxCardinality_le_length (cost : Pid → Rat) (l : List Pid) (budget : Rat) :
    maxCardinality cost l budget ≤ l.length := by
  unfold maxCardinality
  have h := cheapestCount_le_length budget (sortKey id (l.map cost)) 0
  rwa [(sortKey_perm id (l.map cost)).length_eq, List.length_map] at h

theorem maxCardinality_upper (cost : Pid → Rat) (l : List Pid) (budget : Rat) (hnn : ∀ p ∈ l, 0 ≤ cost p)
    (s : List Pid) (hs : s.Sublist l) (hfeas : costOf cost s ≤ budget) : s.length ≤ maxCardinality cost l budget := by
  unfold maxCardinality
  have hperm := sortKey_perm id (l.map cost)
  have h1 := sorted_prefix_le_subperm _ (sortKey_sorted id (l.map cost)) _
    ((hs.map cost).subperm.trans hperm.symm.subperm)
  rw [List.length_map, sumOver_map] at h1
  refine cheapestCount_prefix_max budget _ 0 (fun x hx => ?_) s.length ?_
    (by rw [zero_add]; exact le_trans h1 hfeas)
  · obtain ⟨p, hp, rfl⟩ := List.mem_map.mp (hperm.mem_iff.mp hx)
    exact hnn p hp
  · rw [hperm.length_eq, List.length_map]; exact hs.length_le

theorem maxCardinality_attained (cost : Pid → Rat) (l : List Pid) (budget : Rat) (hb : 0 ≤ budget) :
    ∃ s : List Pid, s.Sublist l ∧ costOf cost s ≤ budget ∧ s.length = maxCardinality cost l budget := by
  unfold maxCardinality
  have hfit := cheapestCount_prefix_fits budget (sortKey id (l.map cost)) 0 hb
  have hlen := cheapestCount_le_length budget (sortKey id (l.map cost)) 0
  -- the counted prefix of the sorted costs is, up to order, the costs of a sub-list of `l`
  obtain ⟨u, hup, husub⟩ := (List.take_sublist (cheapestCount budget 0 (sortKey id (l.map cost))) _).subperm.trans
    (sortKey_perm id (l.map cost)).subperm
  obtain ⟨s, hsl, rfl⟩ := List.sublist_map_iff.mp husub
  refine ⟨s, hsl, ?_, ?_⟩
  · rw [zero_add, ← sumOver_perm hup, sumOver_map] at hfit
    exact hfit
  · rw [← List.length_map (f := cost), hup.length_eq, List.length_take, Nat.min_eq_left hlen]

/-! ### brute-force optima -/

theorem maxCostSpec_eq_maxScoreSpec (cost : Pid → Rat) (l : List Pid) (budget : Rat) :
    maxCostSpec cost l budget = maxScoreSpec cost cost l budget := by
  unfold maxCostSpec maxScoreSpec
  rw [List.filter_map]
  rfl

theorem mem_feasibleScores {cost score : Pid → Rat} {l : List Pid} {budget x : Rat} :
    x ∈ ((sublists l).filter (fun s => decide (costOf cost s ≤ budget))).map (fun s => sumOver s score) ↔
      ∃ s : List Pid, s.Sublist l ∧ costOf cost s ≤ budget ∧ sumOver s score = x := by
  simp only [List.mem_map, List.mem_filter, mem_sublists, decide_eq_true_eq, and_assoc]

theorem maxScoreSpec_eq {cost score : Pid → Rat} {l : List Pid} {budget v : Rat}
    (hatt : ∃ s : List Pid, s.Sublist l ∧ costOf cost s ≤ budget ∧ sumOver s score = v)
    (hup : ∀ s : List Pid, s.Sublist l → costOf cost s ≤ budget → sumOver s score ≤ v) :
    maxScoreSpec cost score l budget = v := by
  unfold maxScoreSpec
  rw [maxRat_eq_some (mem_feasibleScores.mpr hatt)]
  intro x hx
  obtain ⟨s, h1, h2, rfl⟩ := mem_feasibleScores.mp hx
  exact hup s h1 h2

theorem maxScoreSpec_isMax (cost score : Pid → Rat) (l : List Pid) (budget : Rat) (hb : 0 ≤ budget) :
    (∃ s : List Pid, s.Sublist l ∧ costOf cost s ≤ budget ∧ maxScoreSpec cost score l budget = sumOver s score) ∧
    (∀ s : List Pid, s.Sublist l → costOf cost s ≤ budget → sumOver s score ≤ maxScoreSpec cost score l budget) := by
  obtain ⟨m, hm⟩ := maxRat_isSome (List.ne_nil_of_mem
    (mem_feasibleScores (score := score).mpr ⟨[], l.nil_sublist, by simpa using hb, rfl⟩))
  obtain ⟨hmem, hle⟩ := maxRat_some hm
  unfold maxScoreSpec
  rw [hm]
  obtain ⟨s, h1, h2, h3⟩ := mem_feasibleScores.mp hmem
  exact ⟨⟨s, h1, h2, h3.symm⟩, fun t ht hc => hle _ (mem_feasibleScores.mpr ⟨t, ht, hc, rfl⟩)⟩

theorem maxCostSpec_isMax (cost : Pid → Rat) (l : List Pid) (budget : Rat) (hb : 0 ≤ budget) :
    (∃ s : List Pid, s.Sublist l ∧ costOf cost s ≤ budget ∧ maxCostSpec cost l budget = costOf cost s) ∧
    (∀ s : List Pid, s.Sublist l → costOf cost s ≤ budget → costOf cost s ≤ maxCostSpec cost l budget) := by
  rw [maxCostSpec_eq_maxScoreSpec]
  exact maxScoreSpec_isMax cost cost l budget hb

theorem maxScoreSpec_one (cost : Pid → Rat) (l : List Pid) (budget : Rat) (hnn : ∀ p ∈ l, 0 ≤ cost p)
    (hb : 0 ≤ budget) :
    maxScoreSpec cost (fun _ => 1) l budget = ((maxCardinality cost l budget : Nat) : Rat) := by
  obtain ⟨s, h1, h2, h3⟩ := maxCardinality_attained cost l budget hb
  refine maxScoreSpec_eq ⟨s, h1, h2, by rw [sumOver_const, mul_one, h3]⟩ fun t ht hc => ?_
  rw [sumOver_const, mul_one]
  exact Nat.cast_le.mpr (maxCardinality_upper cost l budget hnn t ht hc)

/-! ### facts of `Lemmas/Basic.lean` under the names the checks audit -/

theorem sumOver_nil {α : Type} (f : α → Rat) : sumOver [] f = 0 := rfl

theorem mem_sublists {α : Type} (xs l : List α) : l ∈ sublists xs ↔ l.Sublist xs := Pabu.mem_sublists xs l

theorem sublists_nodup {α : Type} (xs : List α) (h : xs.Nodup) : (sublists xs).Nodup := Pabu.sublists_nodup h

theorem sortKey_perm {α : Type} (key : α → Rat) (l : List α) : (sortKey key l).Perm l := Pabu.sortKey_perm key l

theorem sortKey_sorted {α : Type} (key : α → Rat) (l : List α) :
    (sortKey key l).Pairwise (fun a b => key a ≤ key b) := Pabu.sortKey_sorted key l

end Election
end Pabu
