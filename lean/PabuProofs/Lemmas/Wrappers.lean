/-
  Lemmas for the wrapper models (C09: `Exhaustion`, `MES.iterated`; C19: `Composition`).

  * `Wrap.loop` is the common shape of the four "try budgets B, B+s, B+2s, …" loops
    (`Exhaustion.budgetIncrease`, `Exhaustion.budgetIncreaseAll`, `MES.iterated`, `MES.iteratedAll`);
    the `*_eq_loop` lemmas show each model function IS an instance of it, so that the result /
    invariant / termination / divergence theorems are proved once.
  * what `Composition.maxNat`, `Exhaustion.addNew` and `Exhaustion.outcomesFrom` compute (and `dedup_perm` of
    `Lemmas/Basic.lean` under the name `Wrap.dedup_perm` that the checks audit).
-/
import PabuModel.Exhaustion
import PabuModel.Composition
import PabuModel.MES
import PabuProofs.Lemmas.Basic
import Mathlib.Algebra.Order.Archimedean.Basic

namespace Pabu
namespace Wrap

/-! ### The generic budget-increase loop -/

/-- try `cur, cur+step, …`: stop with the previous outcome when `over cur` or the outcome is `bad`,
    stop with the current outcome when it is `good` -/
def loop {α : Type} (rule : Rat → Except Err α) (over : Rat → Bool) (bad good : α → Bool) (step : Rat) :
    Nat → Rat → α → Except Err α
  | 0, _, _ => .error .fuel
  | f + 1, cur, prev =>
    if over cur then .ok prev
    else match rule cur with
      | .error e => .error e
      | .ok W =>
        if bad W then .ok prev
        else if good W then .ok W
        else loop rule over bad good step f (cur + step) W

def prevOutcome {α : Type} (prev₀ : α) (r : Nat → α) : Nat → α
  | 0 => prev₀
  | k + 1 => r k

theorem shift (B step : Rat) (k : Nat) : B + step + (k : Rat) * step = B + ((k + 1 : Nat) : Rat) * step := by
  rw [Nat.cast_succ, add_mul, one_mul, add_assoc, add_comm step]

theorem shift_zero (B step : Rat) : B + ((0 : Nat) : Rat) * step = B := by
  rw [Nat.cast_zero, zero_mul, add_zero]

/-- the three ways try `k` can end the loop, with the outcome returned -/
def StopsAt {α : Type} (over : Rat → Bool) (bad good : α → Bool) (step B : Rat) (prev₀ : α) (r : Nat → α)
    (k : Nat) (W : α) : Prop :=
  (over (B + k * step) = false ∧ bad (r k) = false ∧ good (r k) = true ∧ W = r k) ∨
  (over (B + k * step) = false ∧ bad (r k) = true ∧ W = prevOutcome prev₀ r k) ∨
  (over (B + k * step) = true ∧ W = prevOutcome prev₀ r k)

def Continues {α : Type} (over : Rat → Bool) (bad good : α → Bool) (step B : Rat) (r : Nat → α) (j : Nat) : Prop :=
  over (B + j * step) = false ∧ bad (r j) = false ∧ good (r j) = false

section step
variable {α : Type} {rule : Rat → Except Err α} {over : Rat → Bool} {bad good : α → Bool} {step : Rat}
  {f : Nat} {B : Rat} {prev₀ W : α} {r : Nat → α}

theorem loop_over (ho : over B = true) : loop rule over bad good step (f + 1) B prev₀ = .ok prev₀ := by
  rw [loop, if_pos ho]

theorem loop_rule_error {e : Err} (ho : over B = false) (hr : rule B = .error e) :
    loop rule over bad good step (f + 1) B prev₀ = .error e := by
  simp only [loop, ho, hr, Bool.false_eq_true, if_false]

theorem loop_bad (ho : over B = false) (hr : rule B = .ok W) (hb : bad W = true) :
    loop rule over bad good step (f + 1) B prev₀ = .ok prev₀ := by
  simp only [loop, ho, hr, hb, Bool.false_eq_true, if_false, if_true]

theorem loop_good (ho : over B = false) (hr : rule B = .ok W) (hb : bad W = false) (hg : good W = true) :
    loop rule over bad good step (f + 1) B prev₀ = .ok W := by
  simp only [loop, ho, hr, hb, hg, Bool.false_eq_true, if_false, if_true]

theorem loop_continue (ho : over B = false) (hr : rule B = .ok W) (hb : bad W = false) (hg : good W = false) :
    loop rule over bad good step (f + 1) B prev₀ = loop rule over bad good step f (B + step) W := by
  simp only [loop, ho, hr, hb, hg, Bool.false_eq_true, if_false]

theorem loop_succ_cases {X : Except Err α} (h : loop rule over bad good step (f + 1) B prev₀ = X) :
    (over B = true ∧ X = .ok prev₀) ∨
    (over B = false ∧
      ((∃ e, rule B = .error e ∧ X = .error e) ∨
       ∃ W, rule B = .ok W ∧
        ((bad W = true ∧ X = .ok prev₀) ∨
         (bad W = false ∧
          ((good W = true ∧ X = .ok W) ∨
           (good W = false ∧ X = loop rule over bad good step f (B + step) W)))))) := by
  cases ho : over B with
  | true => exact .inl ⟨rfl, h ▸ loop_over ho⟩
  | false =>
    refine .inr ⟨rfl, ?_⟩
    cases hr : rule B with
    | error e => exact .inl ⟨e, rfl, h ▸ loop_rule_error ho hr⟩
    | ok W =>
      refine .inr ⟨W, rfl, ?_⟩
      cases hb : bad W with
      | true => exact .inl ⟨rfl, h ▸ loop_bad ho hr hb⟩
      | false =>
        refine .inr ⟨rfl, ?_⟩
        cases hg : good W with
        | true => exact .inl ⟨rfl, h ▸ loop_good ho hr hb hg⟩
        | false => exact .inr ⟨rfl, h ▸ loop_continue ho hr hb hg⟩

/-! Try `k + 1` is try `k` of the loop started one step later. -/

theorem continues_zero :
    Continues over bad good step B r 0 ↔ over B = false ∧ bad (r 0) = false ∧ good (r 0) = false := by
  rw [Continues, shift_zero]

theorem continues_succ {j : Nat} :
    Continues over bad good step (B + step) (fun k => r (k + 1)) j ↔ Continues over bad good step B r (j + 1) := by
  rw [Continues, Continues, shift]

theorem stopsAt_zero :
    StopsAt over bad good step B prev₀ r 0 W ↔
      (over B = false ∧ bad (r 0) = false ∧ good (r 0) = true ∧ W = r 0) ∨
      (over B = false ∧ bad (r 0) = true ∧ W = prev₀) ∨ (over B = true ∧ W = prev₀) := by
  rw [StopsAt, shift_zero]
  rfl

theorem stopsAt_succ {k : Nat} :
    StopsAt over bad good step (B + step) (r 0) (fun k => r (k + 1)) k W ↔
      StopsAt over bad good step B prev₀ r (k + 1) W := by
  rw [StopsAt, StopsAt, shift]
  cases k <;> rfl

end step

theorem loop_result {α : Type} {rule : Rat → Except Err α} {over : Rat → Bool} {bad good : α → Bool} {step : Rat} :
    ∀ (fuel : Nat) (B : Rat) (prev₀ W : α) (r : Nat → α),
    (∀ k : Nat, k < fuel → over (B + k * step) = false → rule (B + k * step) = .ok (r k)) →
    loop rule over bad good step fuel B prev₀ = .ok W →
    ∃ k, k < fuel ∧ (∀ j, j < k → Continues over bad good step B r j) ∧
      StopsAt over bad good step B prev₀ r k W := by
  intro fuel
  induction fuel with
  | zero => intro B prev₀ W r _ h; cases h
  | succ f ih =>
    intro B prev₀ W r hr h
    have h0 := hr 0 (Nat.succ_pos f)
    rw [shift_zero] at h0
    have stop0 (hs : StopsAt over bad good step B prev₀ r 0 W) :
        ∃ k, k < f + 1 ∧ (∀ j, j < k → Continues over bad good step B r j) ∧
          StopsAt over bad good step B prev₀ r k W :=
      ⟨0, Nat.succ_pos f, fun j hj => absurd hj (Nat.not_lt_zero j), hs⟩
    rcases loop_succ_cases h with ⟨ho, hX⟩ | ⟨ho, ⟨e, _, hX⟩ | ⟨W', hr', hW'⟩⟩
    · cases hX
      exact stop0 (stopsAt_zero.mpr (.inr (.inr ⟨ho, rfl⟩)))
    · cases hX
    · cases (h0 ho).symm.trans hr'
      rcases hW' with ⟨hb, hX⟩ | ⟨hb, ⟨hg, hX⟩ | ⟨hg, hX⟩⟩
      · cases hX
        exact stop0 (stopsAt_zero.mpr (.inr (.inl ⟨ho, hb, rfl⟩)))
      · cases hX
        exact stop0 (stopsAt_zero.mpr (.inl ⟨ho, hb, hg, rfl⟩))
      · obtain ⟨k, hk, hall, hstop⟩ := ih (B + step) (r 0) W (fun k => r (k + 1))
          (fun k hk => by rw [shift]; exact hr (k + 1) (Nat.succ_lt_succ hk)) hX.symm
        refine ⟨k + 1, Nat.succ_lt_succ hk, fun j hj => ?_, stopsAt_succ.mp hstop⟩
        cases j with
        | zero => exact continues_zero.mpr ⟨ho, hb, hg⟩
        | succ j => exact continues_succ.mp (hall j (Nat.lt_of_succ_lt_succ hj))

theorem loop_complete {α : Type} {rule : Rat → Except Err α} {over : Rat → Bool} {bad good : α → Bool} {step : Rat} :
    ∀ (k fuel : Nat) (B : Rat) (prev₀ W : α) (r : Nat → α),
    (∀ j : Nat, j ≤ k → over (B + j * step) = false → rule (B + j * step) = .ok (r j)) →
    k < fuel → (∀ j, j < k → Continues over bad good step B r j) →
    StopsAt over bad good step B prev₀ r k W →
    loop rule over bad good step fuel B prev₀ = .ok W := by
  intro k
  induction k with
  | zero =>
    intro fuel B prev₀ W r hr hk _ hstop
    obtain ⟨f, rfl⟩ := Nat.exists_eq_succ_of_ne_zero (Nat.ne_zero_of_lt hk)
    have h0 := hr 0 (Nat.le_refl 0)
    rw [shift_zero] at h0
    rcases stopsAt_zero.mp hstop with ⟨ho, hb, hg, rfl⟩ | ⟨ho, hb, rfl⟩ | ⟨ho, rfl⟩
    · exact loop_good ho (h0 ho) hb hg
    · exact loop_bad ho (h0 ho) hb
    · exact loop_over ho
  | succ k ih =>
    intro fuel B prev₀ W r hr hk hall hstop
    obtain ⟨f, rfl⟩ := Nat.exists_eq_succ_of_ne_zero (Nat.ne_zero_of_lt hk)
    have h0 := hr 0 (Nat.zero_le _)
    rw [shift_zero] at h0
    obtain ⟨ho, hb, hg⟩ := continues_zero.mp (hall 0 (Nat.succ_pos k))
    rw [loop_continue ho (h0 ho) hb hg]
    exact ih f (B + step) (r 0) W (fun j => r (j + 1))
      (fun j hj => by rw [shift]; exact hr (j + 1) (Nat.succ_le_succ hj)) (Nat.lt_of_succ_lt_succ hk)
      (fun j hj => continues_succ.mpr (hall (j + 1) (Nat.succ_lt_succ hj))) (stopsAt_succ.mpr hstop)

theorem loop_ok {α : Type} {rule : Rat → Except Err α} {over : Rat → Bool} {bad good : α → Bool} {step : Rat} :
    ∀ (fuel : Nat) (B : Rat) (prev₀ W : α), loop rule over bad good step fuel B prev₀ = .ok W →
    (W = prev₀ ∧ (over B = true ∨ ∃ W₀, rule B = .ok W₀ ∧ bad W₀ = true)) ∨
      ∃ k : Nat, over (B + k * step) = false ∧ rule (B + k * step) = .ok W ∧ bad W = false := by
  intro fuel
  induction fuel with
  | zero => intro B prev₀ W h; cases h
  | succ f ih =>
    intro B prev₀ W h
    rcases loop_succ_cases h with ⟨ho, hX⟩ | ⟨ho, ⟨e, _, hX⟩ | ⟨W', hr, ⟨hb, hX⟩ | ⟨hb, hW'⟩⟩⟩
    · cases hX
      exact .inl ⟨rfl, .inl ho⟩
    · cases hX
    · cases hX
      exact .inl ⟨rfl, .inr ⟨W', hr, hb⟩⟩
    · -- try 0 is not `bad`: it is the try asked for, also when the next one hands its outcome back
      have try0 : ∃ k : Nat, over (B + k * step) = false ∧ rule (B + k * step) = .ok W' ∧ bad W' = false :=
        ⟨0, by rw [shift_zero]; exact ⟨ho, hr, hb⟩⟩
      rcases hW' with ⟨_, hX⟩ | ⟨_, hX⟩
      · cases hX
        exact .inr try0
      · rcases ih (B + step) W' W hX.symm with ⟨rfl, _⟩ | ⟨k, hk⟩
        · exact .inr try0
        · exact .inr ⟨k + 1, by rw [← shift]; exact hk⟩

theorem loop_inv {α : Type} {rule : Rat → Except Err α} {over : Rat → Bool} {bad good : α → Bool} {step : Rat}
    (P : α → Prop) (hrule : ∀ c W, rule c = .ok W → bad W = false → P W) :
    ∀ (fuel : Nat) (B : Rat) (prev₀ W : α), P prev₀ →
    loop rule over bad good step fuel B prev₀ = .ok W → P W := by
  intro fuel B prev₀ W hp h
  rcases loop_ok fuel B prev₀ W h with ⟨rfl, _⟩ | ⟨k, _, hr, hb⟩
  · exact hp
  · exact hrule _ W hr hb

theorem loop_diverges {α : Type} {rule : Rat → Except Err α} {over : Rat → Bool} {bad good : α → Bool} {step : Rat} :
    ∀ (fuel : Nat) (B : Rat) (prev₀ : α),
    (∀ k : Nat, over (B + k * step) = false ∧
      ∃ W, rule (B + k * step) = .ok W ∧ bad W = false ∧ good W = false) →
    loop rule over bad good step fuel B prev₀ = .error .fuel := by
  intro fuel
  induction fuel with
  | zero => intro B prev₀ _; rfl
  | succ f ih =>
    intro B prev₀ h
    obtain ⟨ho, W, hr, hb, hg⟩ := h 0
    rw [shift_zero] at ho hr
    rw [loop_continue ho hr hb hg]
    exact ih (B + step) W fun k => by rw [shift]; exact h (k + 1)

theorem loop_error_cases {α : Type} {rule : Rat → Except Err α} {over : Rat → Bool} {bad good : α → Bool}
    {step : Rat} : ∀ (fuel : Nat) (B : Rat) (prev₀ : α) (e : Err),
    loop rule over bad good step fuel B prev₀ = .error e →
    ∃ k, (∀ j : Nat, j < k → over (B + j * step) = false ∧
        ∃ W, rule (B + j * step) = .ok W ∧ bad W = false ∧ good W = false) ∧
      (k = fuel ∧ e = .fuel ∨
        k < fuel ∧ over (B + k * step) = false ∧ rule (B + k * step) = .error e) := by
  intro fuel
  induction fuel with
  | zero =>
    intro B prev₀ e h
    exact ⟨0, fun j hj => absurd hj (Nat.not_lt_zero j), .inl ⟨rfl, (Except.error.inj h).symm⟩⟩
  | succ f ih =>
    intro B prev₀ e h
    rcases loop_succ_cases h with ⟨_, hX⟩ | ⟨ho, ⟨e', hr, hX⟩ | ⟨W, hr, ⟨_, hX⟩ | ⟨hb, ⟨_, hX⟩ | ⟨hg, hX⟩⟩⟩⟩
    · cases hX
    · cases hX
      refine ⟨0, fun j hj => absurd hj (Nat.not_lt_zero j), .inr ⟨Nat.succ_pos f, ?_⟩⟩
      rw [shift_zero]
      exact ⟨ho, hr⟩
    · cases hX
    · cases hX
    · obtain ⟨k, hall, hk⟩ := ih (B + step) W e hX.symm
      refine ⟨k + 1, fun j hj => ?_, ?_⟩
      · cases j with
        | zero => rw [shift_zero]; exact ⟨ho, W, hr, hb, hg⟩
        | succ j => rw [← shift]; exact hall j (Nat.lt_of_succ_lt_succ hj)
      · rw [← shift]
        exact hk.imp (fun h => ⟨congrArg (· + 1) h.1, h.2⟩) (fun h => ⟨Nat.succ_lt_succ h.1, h.2⟩)

theorem loop_stops {α : Type} {rule : Rat → Except Err α} {over : Rat → Bool} {bad good : α → Bool} {step : Rat} :
    ∀ (k fuel : Nat) (B : Rat) (prev₀ : α) (r : Nat → α),
    (∀ j : Nat, j ≤ k → over (B + j * step) = false → rule (B + j * step) = .ok (r j)) →
    k < fuel →
    (over (B + k * step) = true ∨ bad (r k) = true ∨ good (r k) = true) →
    ∃ W, loop rule over bad good step fuel B prev₀ = .ok W := by
  intro k fuel B prev₀ r hr hk hstop
  cases h : loop rule over bad good step fuel B prev₀ with
  | ok W => exact ⟨W, rfl⟩
  | error e =>
    exfalso
    obtain ⟨n, hall, hn⟩ := loop_error_cases fuel B prev₀ e h
    -- the failing try `n` is not after `k`, because try `k` does not go on; but up to `k` the rule succeeds
    have hnk : n ≤ k := Nat.le_of_not_lt fun hlt => by
      obtain ⟨ho, W, hW, hb, hg⟩ := hall k hlt
      rw [hr k (Nat.le_refl k) ho] at hW
      cases hW
      rw [ho, hb, hg] at hstop
      simp at hstop
    rcases hn with ⟨rfl, _⟩ | ⟨_, ho, he⟩
    · exact absurd hk (Nat.not_lt.mpr hnk)
    · rw [hr n hnk ho] at he
      cases he

/-- past the bound the loop never runs out of fuel on its own: its error is the rule's -/
theorem loop_error {α : Type} {rule : Rat → Except Err α} {over : Rat → Bool} {bad good : α → Bool} {step : Rat} :
    ∀ (N fuel : Nat) (B : Rat) (prev₀ : α) (e : Err), N < fuel → over (B + N * step) = true →
    loop rule over bad good step fuel B prev₀ = .error e →
    ∃ k, k < N ∧ rule (B + k * step) = .error e := by
  intro N fuel B prev₀ e hN ho h
  obtain ⟨k, hall, hk⟩ := loop_error_cases fuel B prev₀ e h
  have hkN : k ≤ N := Nat.le_of_not_lt fun hlt => by
    rw [(hall N hlt).1] at ho
    cases ho
  rcases hk with ⟨rfl, _⟩ | ⟨_, hok, hr⟩
  · exact absurd hN (Nat.not_lt.mpr hkN)
  · refine ⟨k, Nat.lt_of_le_of_ne hkN ?_, hr⟩
    rintro rfl
    rw [hok] at ho
    cases ho

/-- … nor when every outcome the rule can return at some try ends the loop -/
theorem loop_error_of_stop {α : Type} {rule : Rat → Except Err α} {over : Rat → Bool} {bad good : α → Bool}
    {step : Rat} :
    ∀ (N fuel : Nat) (B : Rat) (prev₀ : α) (e : Err), N < fuel →
    (∀ W, rule (B + N * step) = .ok W → bad W = true ∨ good W = true) →
    loop rule over bad good step fuel B prev₀ = .error e →
    ∃ k, k ≤ N ∧ rule (B + k * step) = .error e := by
  intro N fuel B prev₀ e hN hstop h
  obtain ⟨k, hall, hk⟩ := loop_error_cases fuel B prev₀ e h
  have hkN : k ≤ N := Nat.le_of_not_lt fun hlt => by
    obtain ⟨_, W, hW, hb, hg⟩ := hall N hlt
    have := hstop W hW
    rw [hb, hg] at this
    simp at this
  rcases hk with ⟨rfl, _⟩ | ⟨_, _, hr⟩
  · exact absurd hN (Nat.not_lt.mpr hkN)
  · exact ⟨k, hkN, hr⟩

/-! ### The Boolean tests of the model loops, read as propositions -/

theorem and_eq_false_iff_not {a b : Bool} : (a && b) = false ↔ ¬ (a = true ∧ b = true) :=
  Bool.eq_false_iff.trans (not_congr (Bool.and_eq_true a b).to_iff)

theorem any_not_eq_false {α : Type} {p : α → Bool} {l : List α} :
    l.any (fun x => !p x) = false ↔ ∀ x ∈ l, p x = true := by
  simp only [List.any_eq_false, Bool.not_eq_true', Bool.not_eq_false]

theorem any_not_eq_true {α : Type} {p : α → Bool} {l : List α} :
    l.any (fun x => !p x) = true ↔ ∃ x ∈ l, p x = false := by
  simp only [List.any_eq_true, Bool.not_eq_true']

/-! ### The four model loops are instances of `loop` -/

theorem budgetIncrease_eq_loop (rule : Rat → Except Err (List Pid)) (feas exh : List Pid → Bool) (stop : Bool)
    (step bound : Rat) : ∀ (fuel : Nat) (cur : Rat) (prev : List Pid),
    Exhaustion.budgetIncrease rule feas exh stop step bound fuel cur prev =
      loop rule (fun c => decide (bound < c)) (fun W => !feas W) (fun W => stop && exh W) step fuel cur prev := by
  intro fuel
  induction fuel with
  | zero => intro cur prev; rfl
  | succ f ih =>
    intro cur prev
    simp only [Exhaustion.budgetIncrease, loop, ih, decide_eq_true_eq]
    cases rule cur <;> rfl

theorem budgetIncreaseAll_eq_loop (rule : Rat → Except Err (List (List Pid))) (feas exh : List Pid → Bool)
    (stop : Bool) (step bound : Rat) : ∀ (fuel : Nat) (cur : Rat) (prev : List (List Pid)),
    Exhaustion.budgetIncreaseAll rule feas exh stop step bound fuel cur prev =
      loop rule (fun c => decide (bound < c)) (fun Ws => Ws.any (fun W => !feas W))
        (fun Ws => stop && Ws.any exh) step fuel cur prev := by
  intro fuel
  induction fuel with
  | zero => intro cur prev; rfl
  | succ f ih =>
    intro cur prev
    simp only [Exhaustion.budgetIncreaseAll, loop, ih, decide_eq_true_eq]
    cases rule cur <;> rfl

theorem iterated_eq_loop (V : VCtx) (I : Inst) (init : List Pid) (order : List Pid → Except Err (List Pid))
    (inc : Rat) : ∀ (fuel : Nat) (b0 : Rat) (prev : List Pid),
    MES.iterated V I init order inc fuel b0 prev =
      loop (MES.runAt V I init order) (fun _ => false) (fun W => !I.isFeasible W)
        (fun W => I.isExhaustiveOver (MES.initPool V I init) W) inc fuel b0 prev := by
  intro fuel
  induction fuel with
  | zero => intro cur prev; rfl
  | succ f ih =>
    intro cur prev
    simp only [MES.iterated, loop, ih, Bool.false_eq_true, if_false]
    cases MES.runAt V I init order cur <;> rfl

theorem iteratedAll_eq_loop (V : VCtx) (I : Inst) (init : List Pid) (order : List Pid → Except Err (List Pid))
    (inc : Rat) : ∀ (fuel : Nat) (b0 : Rat) (prev : List (List Pid)),
    MES.iteratedAll V I init order inc fuel b0 prev =
      loop (MES.runAllAt V I init order) (fun _ => false) (fun Ws => Ws.any (fun W => !I.isFeasible W))
        (fun Ws => Ws.any (fun W => I.isExhaustiveOver (MES.initPool V I init) W)) inc fuel b0 prev := by
  intro fuel
  induction fuel with
  | zero => intro cur prev; rfl
  | succ f ih =>
    intro cur prev
    simp only [MES.iteratedAll, loop, ih, Bool.false_eq_true, if_false]
    cases MES.runAllAt V I init order cur <;> rfl

/-! ### The budgets tried and the bound -/

theorem exists_steps_past_bound (B bound step : Rat) (hs : 0 < step) : ∃ N : Nat, bound < B + N * step := by
  obtain ⟨N, hN⟩ := exists_nat_gt ((bound - B) / step)
  exact ⟨N, sub_lt_iff_lt_add'.mp ((div_lt_iff₀ hs).mp hN)⟩

theorem steps_within_bound {B bound step : Rat} (hs : step ≤ 0) (hB : B ≤ bound) (k : Nat) :
    B + k * step ≤ bound :=
  le_trans (add_le_of_nonpos_right (mul_nonpos_of_nonneg_of_nonpos (Nat.cast_nonneg k) hs)) hB

/-! ### `maxNat`; `dedup_perm` is the fact of `Lemmas/Basic.lean` under the name the checks audit -/

theorem dedup_perm {α : Type} [BEq α] [LawfulBEq α] {l l' : List α} (h : ∀ x, x ∈ l ↔ x ∈ l') :
    (dedup l).Perm (dedup l') :=
  Pabu.dedup_perm h

theorem maxNat_ge : ∀ {l : List Nat} {x : Nat}, x ∈ l → x ≤ Composition.maxNat l
  | a :: l, x, hx => by
    rcases List.mem_cons.mp hx with rfl | hx
    · exact Nat.le_max_left _ _
    · exact Nat.le_trans (maxNat_ge hx) (Nat.le_max_right _ _)

theorem maxNat_mem : ∀ {l : List Nat}, l ≠ [] → Composition.maxNat l ∈ l
  | [a], _ => List.mem_singleton.mpr (Nat.max_zero a)
  | a :: b :: l, _ => by
    rw [Composition.maxNat]
    rcases max_choice a (Composition.maxNat (b :: l)) with h | h
    · rw [h]; exact List.mem_cons_self
    · rw [h]; exact List.mem_cons_of_mem _ (maxNat_mem (List.cons_ne_nil b l))

/-! ### `addNew`, `outcomesFrom` -/

theorem mem_addNew : ∀ {ws res : List (List Pid)} {x : List Pid},
    x ∈ Exhaustion.addNew res ws ↔ x ∈ res ∨ x ∈ ws
  | [], res, x => by simp [Exhaustion.addNew]
  | w :: ws, res, x => by
    rw [Exhaustion.addNew, List.mem_cons]
    split
    next hc =>
      have hw : w ∈ res := List.contains_iff_mem.mp hc
      rw [mem_addNew]
      exact ⟨Or.imp_right Or.inr, fun h => h.elim Or.inl fun h => h.elim (fun e => Or.inl (e ▸ hw)) Or.inr⟩
    next => rw [mem_addNew, List.mem_append, List.mem_singleton, or_assoc]

theorem outcomesFrom_ok {r : List Pid → Except Err (List (List Pid))} :
    ∀ {as outs : List (List Pid)}, Exhaustion.outcomesFrom r as = .ok outs →
      (∀ a ∈ as, ∃ ws, r a = .ok ws ∧ ∀ w ∈ ws, w ∈ outs) ∧
      (∀ w ∈ outs, ∃ a ∈ as, ∃ ws, r a = .ok ws ∧ w ∈ ws)
  | [], outs, h => by
    cases h
    exact ⟨fun a ha => absurd ha List.not_mem_nil, fun w hw => absurd hw List.not_mem_nil⟩
  | a :: as, outs, h => by
    rw [Exhaustion.outcomesFrom] at h
    cases hr : r a with
    | error e => rw [hr] at h; cases h
    | ok ws =>
      cases hrest : Exhaustion.outcomesFrom r as with
      | error e => rw [hr, hrest] at h; cases h
      | ok rest =>
        rw [hr, hrest] at h
        cases h
        obtain ⟨ih1, ih2⟩ := outcomesFrom_ok hrest
        constructor
        · intro b hb
          rcases List.mem_cons.mp hb with rfl | hb
          · exact ⟨ws, hr, fun w hw => List.mem_append_left _ hw⟩
          · obtain ⟨ws', h1, h2⟩ := ih1 b hb
            exact ⟨ws', h1, fun w hw => List.mem_append_right _ (h2 w hw)⟩
        · intro w hw
          rcases List.mem_append.mp hw with hw | hw
          · exact ⟨a, List.mem_cons_self, ws, hr, hw⟩
          · obtain ⟨b, hb, ws', h1, h2⟩ := ih2 w hw
            exact ⟨b, List.mem_cons_of_mem _ hb, ws', h1, h2⟩

end Wrap
end Pabu
