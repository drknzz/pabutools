/-
  Lemmas about `PabuModel.WelfareILP`: evaluation of the linear forms the code builds, the two integer cuts,
  supports of assignments vs. sub-lists, the invariant of the enumeration loop, the brute-force solver, the
  completion `patch` of a solver that is only specified on programs with variables (`SolverSpecNE`), and the
  canonical form `Constr.canon` that the driver prints.
-/
import PabuModel.WelfareILP
import PabuProofs.Lemmas.MaxWelfare
import Mathlib.Data.List.Perm.Subperm
namespace Pabu
namespace WelfareILP
open Election

/-! ### linear forms -/

theorem evalLin_nil (a : Assignment) : evalLin a [] = 0 := rfl

theorem evalLin_cons (a : Assignment) (e : Pid × Rat) (t : List (Pid × Rat)) :
    evalLin a (e :: t) = e.2 * xval a e.1 + evalLin a t := rfl

theorem evalLin_append (a : Assignment) (t₁ t₂ : List (Pid × Rat)) :
    evalLin a (t₁ ++ t₂) = evalLin a t₁ + evalLin a t₂ :=
  sumOver_append t₁ t₂ _

theorem evalLin_map (a : Assignment) (l : List Pid) (f : Pid → Rat) :
    evalLin a (l.map (fun p => (p, f p))) = sumOver (l.filter a) f := by
  unfold evalLin
  rw [sumOver_map, sumOver_filter_ite]
  exact sumOver_congr fun p _ => by unfold xval; cases a p <;> simp

theorem evalLin_map_const (a : Assignment) (l : List Pid) (c : Rat) :
    evalLin a (l.map (fun p => (p, c))) = ((l.filter a).length : Rat) * c := by
  rw [evalLin_map a l (fun _ => c), sumOver_const]

theorem evalLin_congr {a b : Assignment} {t : List (Pid × Rat)} (h : ∀ e ∈ t, a e.1 = b e.1) :
    evalLin a t = evalLin b t :=
  sumOver_congr fun e he => by unfold xval; rw [h e he]

theorem evalLin_perm (a : Assignment) {t t' : List (Pid × Rat)} (h : t.Perm t') : evalLin a t = evalLin a t' :=
  sumOver_perm h _

/-! ### the integer cuts -/

/-- the left-hand side of the first cut counts the positions where the assignment differs from `S`: the
    projects of `S` at zero and the projects outside `S` at one -/
theorem cut1_lhs (a : Assignment) (vars S : List Pid) :
    (cut1 vars S).lhs a =
      (((S.filter (fun p => !a p)).length + ((others vars S).filter a).length : Nat) : Rat) := by
  have h : (cut1 vars S).lhs a = evalLin a (S.map (fun p => (p, -1)) ++ (others vars S).map (fun p => (p, 1)))
      + (S.length : Rat) := rfl
  rw [h, evalLin_append, evalLin_map_const, evalLin_map_const, List.length_eq_length_filter_add (l := S) a]
  push_cast
  ring

theorem cut2_lhs (a : Assignment) (vars S : List Pid) :
    (cut2 vars S).lhs a = (S.length : Rat) - (cut1 vars S).lhs a := by
  have h : (cut2 vars S).lhs a = evalLin a (S.map (fun p => (p, 1)) ++ (others vars S).map (fun p => (p, -1)))
      + 0 := rfl
  rw [cut1_lhs, h, evalLin_append, evalLin_map_const, evalLin_map_const,
    List.length_eq_length_filter_add (l := S) a]
  push_cast
  ring

theorem cut1_sat (a : Assignment) (vars S : List Pid) :
    (cut1 vars S).sat a = decide ((1 : Rat) ≤ (cut1 vars S).lhs a) := rfl

theorem cut2_sat (a : Assignment) (vars S : List Pid) :
    (cut2 vars S).sat a = decide ((cut2 vars S).lhs a ≤ (S.length : Rat) - 1) := rfl

/-- the second cut is the first one multiplied by −1: it holds for exactly the same assignments (redundant) -/
theorem cut2_sat_eq_cut1 (a : Assignment) (vars S : List Pid) : (cut2 vars S).sat a = (cut1 vars S).sat a := by
  rw [cut1_sat, cut2_sat, cut2_lhs, decide_eq_decide, sub_le_sub_iff_left]

theorem cut1_sat_iff (a : Assignment) (vars S : List Pid) :
    (cut1 vars S).sat a = true ↔ (∃ p ∈ S, a p = false) ∨ (∃ p ∈ vars, p ∉ S ∧ a p = true) := by
  rw [cut1_sat, decide_eq_true_iff, cut1_lhs, Nat.one_le_cast, Nat.succ_le_iff, Nat.add_pos_iff_pos_or_pos,
    List.length_filter_pos_iff, List.length_filter_pos_iff]
  simp only [others, List.mem_filter, Bool.not_eq_true', and_assoc, ← Bool.not_eq_true, List.contains_iff_mem]

theorem cuts_sat_iff_set (a : Assignment) (vars S : List Pid) (hS : ∀ p ∈ S, p ∈ vars) :
    ((cut1 vars S).sat a = true ∧ (cut2 vars S).sat a = true) ↔ ¬ (∀ p ∈ vars, (a p = true ↔ p ∈ S)) := by
  rw [cut2_sat_eq_cut1, and_self, cut1_sat_iff]
  constructor
  · rintro (⟨p, hp, hap⟩ | ⟨p, hp, hps, hap⟩) hall
    · exact Bool.false_ne_true (hap.symm.trans ((hall p (hS p hp)).2 hp))
    · exact hps ((hall p hp).1 hap)
  · intro h
    by_contra hcon
    obtain ⟨h1, h2⟩ := not_or.mp hcon
    refine h fun p hp => ⟨fun hap => ?_, fun hps => ?_⟩
    · by_contra hps
      exact h2 ⟨p, hp, hps, hap⟩
    · by_contra hap
      exact h1 ⟨p, hps, Bool.eq_false_iff.mpr hap⟩

/-- in the loop `S` is always the support of a previous answer: the cuts exclude exactly that support -/
theorem cuts_sat_iff_filter (a b : Assignment) (vars : List Pid) :
    ((cut1 vars (vars.filter b)).sat a = true ∧ (cut2 vars (vars.filter b)).sat a = true) ↔
      partialAlloc vars a ≠ vars.filter b := by
  rw [cuts_sat_iff_set a vars (vars.filter b) (fun p hp => (List.mem_filter.1 hp).1)]
  refine not_congr ⟨fun h => ?_, fun h p hp => ?_⟩
  · refine List.filter_congr fun p hp => Bool.eq_iff_iff.mpr ?_
    rw [h p hp, List.mem_filter, and_iff_right hp]
  · rw [← show partialAlloc vars a = vars.filter b from h, partialAlloc, List.mem_filter, and_iff_right hp]

/-! ### supports and sub-lists -/

theorem indicator_nil (p : Pid) : indicator [] p = false := rfl

theorem indicator_eq_true (s : List Pid) (p : Pid) : indicator s p = true ↔ p ∈ s := by
  unfold indicator
  exact List.contains_iff_mem

theorem filter_indicator {s l : List Pid} (hs : s.Sublist l) (hl : l.Nodup) : l.filter (indicator s) = s := by
  induction hs with
  | slnil => rfl
  | @cons s l x hs ih =>
    obtain ⟨hx, hl⟩ := List.nodup_cons.mp hl
    rw [List.filter_cons_of_neg (by rw [indicator_eq_true]; exact fun h => hx (hs.subset h))]
    exact ih hl
  | @cons_cons s l x hs ih =>
    obtain ⟨hx, hl⟩ := List.nodup_cons.mp hl
    rw [List.filter_cons_of_pos (by rw [indicator_eq_true]; exact List.mem_cons_self), ← ih hl]
    congr 1
    -- `x` does not occur in `l`, so on `l` the indicators of `x :: s` and of `s` agree
    refine List.filter_congr fun p hp => Bool.eq_iff_iff.mpr ?_
    rw [indicator_eq_true, indicator_eq_true, List.mem_cons, ih hl, or_iff_right (fun h : p = x => hx (h ▸ hp))]

theorem sublist_eq_of_perm {s t vars : List Pid} (hv : vars.Nodup) (hs : s.Sublist vars) (ht : t.Sublist vars)
    (h : s.Perm t) : s = t := by
  rw [← filter_indicator hs hv, ← filter_indicator ht hv]
  refine List.filter_congr fun p _ => Bool.eq_iff_iff.mpr ?_
  rw [indicator_eq_true, indicator_eq_true, h.mem_iff]

theorem partialAlloc_sublist (vars : List Pid) (a : Assignment) : (partialAlloc vars a).Sublist vars :=
  List.filter_sublist

/-! ### the knapsack program under the solver hypothesis -/

theorem knap_objective (cost value : Pid → Rat) (l : List Pid) (B : Rat) (a : Assignment) :
    (knapProgram cost value l B).objective a = sumOver (partialAlloc l a) value :=
  evalLin_map a l value

theorem knap_feasible (cost value : Pid → Rat) (l : List Pid) (B : Rat) (a : Assignment) :
    (knapProgram cost value l B).feasible a = true ↔ costOf cost (partialAlloc l a) ≤ B := by
  have h : (knapProgram cost value l B).feasible a
      = (decide (evalLin a (l.map (fun p => (p, cost p))) + 0 ≤ B) && true) := rfl
  rw [h, Bool.and_true, decide_eq_true_iff, evalLin_map, add_zero]
  rfl

theorem knap_solve_spec {solve : Program → Option Assignment} (hs : SolverSpec solve) (cost value : Pid → Rat)
    {l : List Pid} (hl : l.Nodup) (B : Rat) (hfeas : ∃ t : List Pid, t.Sublist l ∧ costOf cost t ≤ B) :
    ∃ a, solve (knapProgram cost value l B) = some a ∧ costOf cost (partialAlloc l a) ≤ B ∧
      ∀ t : List Pid, t.Sublist l → costOf cost t ≤ B → sumOver t value ≤ sumOver (partialAlloc l a) value := by
  obtain ⟨hsome, hnone⟩ := hs (knapProgram cost value l B)
  cases h : solve (knapProgram cost value l B) with
  | none =>
    obtain ⟨t, ht, hc⟩ := hfeas
    have h1 := hnone h (indicator t)
    have hf : (knapProgram cost value l B).feasible (indicator t) = true := by
      rw [knap_feasible, partialAlloc, filter_indicator ht hl]; exact hc
    rw [hf] at h1
    exact absurd h1 (by simp)
  | some a =>
    obtain ⟨hfa, hopt⟩ := hsome a h
    refine ⟨a, rfl, (knap_feasible cost value l B a).1 hfa, ?_⟩
    intro t ht hc
    have h1 := hopt (indicator t) (by rw [knap_feasible, partialAlloc, filter_indicator ht hl]; exact hc)
    rw [knap_objective, knap_objective, partialAlloc, partialAlloc, filter_indicator ht hl] at h1
    exact h1

theorem knapILP_eq {solve : Program → Option Assignment} (hs : SolverSpec solve) (cost value : Pid → Rat)
    {l : List Pid} (hl : l.Nodup) (B : Rat) (hB : 0 ≤ B) :
    knapILP solve cost value l B = .ok (maxScoreSpec cost value l B) := by
  unfold knapILP
  by_cases hnil : l = []
  · subst hnil
    rw [if_pos rfl, maxScoreSpec_eq ⟨[], .slnil, by simpa using hB, rfl⟩
      fun s hs _ => by rw [List.sublist_nil.mp hs]]
    rfl
  · obtain ⟨a, ha, hca, hopt⟩ := knap_solve_spec hs cost value hl B ⟨[], l.nil_sublist, by simpa using hB⟩
    rw [if_neg hnil, ha, maxScoreSpec_eq ⟨_, partialAlloc_sublist l a, hca, rfl⟩ hopt]

/-! ### the welfare program and the brute-force specification `MaxWelfare.allOptima` -/

theorem freeVars_nodup (I : Inst) (init : List Pid) (h : I.projects.Nodup) : (freeVars I init).Nodup :=
  h.filter _

theorem isFeasible_append_iff (I : Inst) (init s : List Pid) :
    I.isFeasible (init ++ s) = true ↔ costOf I.cost s ≤ availableBudget I init := by
  rw [I.isFeasible_append, availableBudget, le_sub_iff_add_le']

theorem base_feasible_iff (I : Inst) (score : Pid → Rat) (init : List Pid) (a : Assignment) :
    (baseProgram I score init).feasible a = true ↔
      I.isFeasible (init ++ partialAlloc (freeVars I init) a) = true := by
  rw [isFeasible_append_iff]
  exact knap_feasible _ _ _ _ a

/-- the supports (sub-lists of the free projects) of the welfare-maximal feasible allocations -/
def optSupports (I : Inst) (score : Pid → Rat) (init : List Pid) : List (List Pid) :=
  (sublists (freeVars I init)).filter (fun s => I.isFeasible (init ++ s) &&
    decide (sumOver (init ++ s) score = MaxWelfare.optValue I score init))

theorem allOptima_eq_map (I : Inst) (score : Pid → Rat) (init : List Pid) :
    MaxWelfare.allOptima I score init = (optSupports I score init).map (fun s => init ++ s) := by
  unfold MaxWelfare.allOptima optSupports freeVars
  rw [List.filter_map, List.filter_map, List.filter_filter]
  congr 1
  apply List.filter_congr
  intro s _
  simp only [Function.comp]
  exact Bool.and_comm _ _

theorem optSupports_nodup (I : Inst) (score : Pid → Rat) (init : List Pid) (h : I.projects.Nodup) :
    (optSupports I score init).Nodup :=
  (sublists_nodup (freeVars_nodup I init h)).filter _

theorem optSupports_sublist (I : Inst) (score : Pid → Rat) (init : List Pid) :
    ∀ s ∈ optSupports I score init, s.Sublist (freeVars I init) :=
  fun _ hs => (mem_sublists _ _).mp (List.mem_filter.mp hs).1

theorem optSupports_length_le (I : Inst) (score : Pid → Rat) (init : List Pid) :
    (optSupports I score init).length ≤ 2 ^ (freeVars I init).length :=
  le_trans (List.length_filter_le _ _) (le_of_eq (length_sublists _))

theorem mem_optSupports_iff (I : Inst) (score : Pid → Rat) (init : List Pid) (opt : Rat)
    (hopt : MaxWelfare.optValue I score init = sumOver init score + opt) (s : List Pid) :
    s ∈ optSupports I score init ↔
      s.Sublist (freeVars I init) ∧ I.isFeasible (init ++ s) = true ∧ sumOver s score = opt := by
  unfold optSupports
  rw [List.mem_filter, mem_sublists, Bool.and_eq_true, decide_eq_true_iff, sumOver_append, hopt, add_right_inj]

theorem base_solve_spec {solve : Program → Option Assignment} (hs : SolverSpec solve) (I : Inst) (score : Pid → Rat)
    (init : List Pid) (hnd : I.projects.Nodup) (hinit : I.isFeasible init = true) :
    ∃ a, solve (baseProgram I score init) = some a ∧
      I.isFeasible (init ++ partialAlloc (freeVars I init) a) = true ∧
      MaxWelfare.optValue I score init = sumOver init score + (baseProgram I score init).objective a ∧
      partialAlloc (freeVars I init) a ∈ optSupports I score init := by
  obtain ⟨a, ha, hca, hopt⟩ := knap_solve_spec hs I.cost score (freeVars_nodup I init hnd) (availableBudget I init)
    ⟨[], List.nil_sublist _, (isFeasible_append_iff I init []).mp (by rwa [List.append_nil])⟩
  have hfa := (isFeasible_append_iff I init _).mpr hca
  have hobj : (baseProgram I score init).objective a = sumOver (partialAlloc (freeVars I init) a) score :=
    knap_objective _ _ _ _ a
  have hval : MaxWelfare.optValue I score init = sumOver init score + (baseProgram I score init).objective a := by
    rw [MaxWelfare.optValue_eq_of_best I score init (partialAlloc (freeVars I init) a) (partialAlloc_sublist _ a) hfa
      fun t ht hft => hopt t ht ((isFeasible_append_iff I init t).mp hft), sumOver_append, hobj]
  exact ⟨a, ha, hfa, hval,
    (mem_optSupports_iff I score init _ hval _).mpr ⟨partialAlloc_sublist _ a, hfa, hobj.symm⟩⟩

/-! ### the enumeration loop -/

theorem addConstrs_feasible (P : Program) (cs : List Constr) (a : Assignment) :
    (P.addConstrs cs).feasible a = (P.feasible a && cs.all (fun c => c.sat a)) := by
  unfold Program.feasible Program.addConstrs
  simp only [List.all_append]

theorem addCuts_feasible_iff (P : Program) (a b : Assignment) :
    (P.addCuts (P.vars.filter b)).feasible a = true ↔
      P.feasible a = true ∧ partialAlloc P.vars a ≠ P.vars.filter b := by
  unfold Program.addCuts
  rw [addConstrs_feasible, Bool.and_eq_true]
  simp only [List.all_cons, List.all_nil, Bool.and_true, Bool.and_eq_true]
  rw [cuts_sat_iff_filter]

/-- invariant of the `while True:` loop -/
structure LoopInv (vars : List Pid) (Opt : List (List Pid)) (P : Program) (prev : List Pid)
    (all : List (List Pid)) : Prop where
  hvars : P.vars = vars
  hsub : ∀ s ∈ all, s ∈ Opt
  hnd : all.Nodup
  hprev : prev ∈ all
  hform : ∃ b : Assignment, prev = vars.filter b
  hfeas : ∀ a : Assignment, P.feasible a = true ↔
    (partialAlloc vars a ∈ Opt ∧ ∀ s ∈ all, s ≠ prev → partialAlloc vars a ≠ s)

theorem pushNew_of_not_mem (all : List (List Pid)) (s : List Pid) (h : s ∉ all) : pushNew all s = all ++ [s] := by
  unfold pushNew
  rw [if_neg]
  intro hc
  exact h (List.contains_iff_mem.1 hc)

theorem pushNew_of_mem (all : List (List Pid)) (s : List Pid) (h : s ∈ all) : pushNew all s = all := by
  unfold pushNew
  rw [if_pos (List.contains_iff_mem.2 h)]

section Invariant
variable {vars prev : List Pid} {Opt all : List (List Pid)} {P : Program}

theorem LoopInv.addCuts_feasible (inv : LoopInv vars Opt P prev all) (a : Assignment) :
    (P.addCuts prev).feasible a = true ↔ partialAlloc vars a ∈ Opt ∧ partialAlloc vars a ∉ all := by
  obtain ⟨b, hb⟩ := inv.hform
  have h := addCuts_feasible_iff P a b
  rw [inv.hvars, ← hb] at h
  rw [h, inv.hfeas a]
  constructor
  · rintro ⟨⟨h1, h2⟩, h3⟩
    exact ⟨h1, fun hmem => h2 _ hmem h3 rfl⟩
  · rintro ⟨h1, h2⟩
    exact ⟨⟨h1, fun s hs _ heq => h2 (heq ▸ hs)⟩, fun heq => h2 (heq ▸ inv.hprev)⟩

theorem LoopInv.step (inv : LoopInv vars Opt P prev all) {a : Assignment} (hO : partialAlloc vars a ∈ Opt)
    (hnot : partialAlloc vars a ∉ all) :
    LoopInv vars Opt (P.addCuts prev) (partialAlloc vars a) (all ++ [partialAlloc vars a]) := by
  refine ⟨inv.hvars, List.forall_mem_append.mpr ⟨inv.hsub, fun s hs => List.mem_singleton.mp hs ▸ hO⟩,
    List.nodup_append.mpr ⟨inv.hnd, List.nodup_singleton _, fun x hx y hy hxy => ?_⟩,
    List.mem_append_right _ (List.mem_singleton.mpr rfl), ⟨a, rfl⟩, fun a' => ?_⟩
  · exact hnot (List.mem_singleton.mp hy ▸ hxy ▸ hx)
  · rw [inv.addCuts_feasible a']
    constructor
    · rintro ⟨h1, h2⟩
      refine ⟨h1, fun s hs hne heq => ?_⟩
      rcases List.mem_append.mp hs with h | h
      · exact h2 (heq ▸ h)
      · exact hne (List.mem_singleton.mp h)
    · rintro ⟨h1, h2⟩
      exact ⟨h1, fun hmem => h2 _ (List.mem_append_left _ hmem) (fun heq => hnot (heq ▸ hmem)) rfl⟩

theorem LoopInv.length_le (inv : LoopInv vars Opt P prev all) : all.length ≤ Opt.length :=
  (inv.hnd.subperm inv.hsub).length_le

end Invariant

theorem fuel_step {n a f : Nat} (h : n - a < f + 1) (ha : a + 1 ≤ n) : n - (a + 1) < f := by
  rw [Nat.sub_add_eq]
  exact Nat.lt_of_lt_of_le (Nat.sub_one_lt (Nat.ne_of_gt (Nat.sub_pos_of_lt ha))) (Nat.le_of_lt_succ h)

theorem calls_step (p : Nat) {n a : Nat} (ha : a + 1 ≤ n) : p + 1 + (n - (a + 1)) + 1 = p + (n - a) + 1 := by
  have e : n - a = n - (a + 1) + 1 := by rw [Nat.sub_add_eq, Nat.sub_add_cancel (Nat.sub_pos_of_lt ha)]
  rw [e, Nat.add_right_comm p 1, Nat.add_assoc p _ 1]

/-- The loop, started in a state satisfying the invariant with enough fuel, stops with a duplicate-free list that
    contains exactly the optimal supports; it poses one program per optimum still to be found, plus the last,
    infeasible one. -/
theorem loop_spec (ask : Oracle) (hask : OracleSpec ask) {vars : List Pid} (hv : vars.Nodup)
    {Opt : List (List Pid)} (hOsub : ∀ s ∈ Opt, s.Sublist vars) (hOnd : Opt.Nodup) :
    ∀ (fuel k : Nat) (P : Program) (prev : List Pid) (all : List (List Pid)) (progs : List Program),
      LoopInv vars Opt P prev all → Opt.length - all.length < fuel →
      ∃ L, (loop ask fuel k P prev all progs).result = .ok L ∧ L.Perm Opt ∧ all <+: L ∧
        (loop ask fuel k P prev all progs).programs.length = progs.length + (Opt.length - all.length) + 1 := by
  intro fuel
  induction fuel with
  | zero => intro k P prev all progs _ h; exact absurd h (Nat.not_lt_zero _)
  | succ f ih =>
    intro k P prev all progs inv hfuel
    rw [loop]
    cases hans : ask k (P.addCuts prev) with
    | none =>
      -- the program with the cuts is infeasible: every optimal support is already listed
      have hperm : all.Perm Opt := by
        refine (List.perm_ext_iff_of_nodup inv.hnd hOnd).mpr fun s => ⟨inv.hsub s, fun hs => ?_⟩
        by_contra hnot
        have h2 := (inv.addCuts_feasible (indicator s)).mpr
          (by rw [partialAlloc, filter_indicator (hOsub s hs) hv]; exact ⟨hs, hnot⟩)
        rw [(hask k (P.addCuts prev)).2 hans (indicator s)] at h2
        exact Bool.false_ne_true h2
      refine ⟨all, rfl, hperm, List.prefix_refl _, ?_⟩
      show (progs ++ [P.addCuts prev]).length = _
      rw [List.length_append, List.length_singleton, hperm.length_eq, Nat.sub_self, Nat.add_zero]
    | some a =>
      obtain ⟨hO, hnot⟩ := (inv.addCuts_feasible a).mp ((hask k (P.addCuts prev)).1 a hans).1
      have inv' := inv.step hO hnot
      have hlen' := inv'.length_le
      rw [List.length_append, List.length_singleton] at hlen'
      simp only
      rw [inv.hvars, pushNew_of_not_mem all _ hnot]
      obtain ⟨L, hL1, hL2, hL3, hL4⟩ := ih (k + 1) (P.addCuts prev) (partialAlloc vars a)
        (all ++ [partialAlloc vars a]) (progs ++ [P.addCuts prev]) inv'
        (by rw [List.length_append, List.length_singleton]; exact fuel_step hfuel hlen')
      refine ⟨L, hL1, hL2, (List.prefix_append all _).trans hL3, ?_⟩
      rw [hL4, List.length_append, List.length_append, List.length_singleton, List.length_singleton]
      exact calls_step _ hlen'

/-! ### the irresolute call -/

theorem optConstr_sat (vars : List Pid) (score : Pid → Rat) (opt : Rat) (a : Assignment) :
    (optConstr vars score opt).sat a = true ↔ sumOver (partialAlloc vars a) score = opt := by
  have h : (optConstr vars score opt).sat a
      = decide (evalLin a (vars.map (fun p => (p, score p))) + 0 = opt) := rfl
  rw [h, decide_eq_true_iff, evalLin_map, add_zero]
  rfl

theorem LoopInv.init {I : Inst} {score : Pid → Rat} {init : List Pid} {a₀ : Assignment}
    (hval : MaxWelfare.optValue I score init = sumOver init score + (baseProgram I score init).objective a₀)
    (hmem₀ : partialAlloc (freeVars I init) a₀ ∈ optSupports I score init) :
    LoopInv (freeVars I init) (optSupports I score init)
      ((baseProgram I score init).addConstrs
        [optConstr (freeVars I init) score ((baseProgram I score init).objective a₀)])
      (partialAlloc (freeVars I init) a₀) [partialAlloc (freeVars I init) a₀] := by
  refine ⟨rfl, fun s hs => List.mem_singleton.mp hs ▸ hmem₀, List.nodup_singleton _, List.mem_singleton.mpr rfl,
    ⟨a₀, rfl⟩, fun a => ?_⟩
  rw [addConstrs_feasible, Bool.and_eq_true]
  simp only [List.all_cons, List.all_nil, Bool.and_true]
  rw [optConstr_sat, base_feasible_iff, mem_optSupports_iff I score init _ hval]
  constructor
  · rintro ⟨h1, h2⟩
    exact ⟨⟨partialAlloc_sublist _ a, h1, h2⟩, fun s hs hne => absurd (List.mem_singleton.mp hs) hne⟩
  · rintro ⟨⟨_, h1, h2⟩, _⟩
    exact ⟨h1, h2⟩

theorem optSupports_of_no_free (I : Inst) (score : Pid → Rat) (init : List Pid) (hfree : freeVars I init = [])
    (hinit : I.isFeasible init = true) : optSupports I score init = [[]] := by
  have hf : I.isFeasible (init ++ []) = true := by rwa [List.append_nil]
  have hval := MaxWelfare.optValue_eq_of_best I score init [] (List.nil_sublist _) hf fun t ht _ => by
    have ht : t.Sublist (freeVars I init) := ht
    rw [hfree] at ht
    rw [List.sublist_nil.mp ht]
  unfold optSupports
  rw [hfree]
  show ([[]] : List (List Pid)).filter _ = [[]]
  rw [List.filter_cons, List.filter_nil, hf, hval]
  simp

/-- the number of `optimize()` calls of the irresolute run: none when no project is left to decide, else one per optimum
    plus the final infeasible one -/
def expectedCalls (I : Inst) (score : Pid → Rat) (init : List Pid) : Nat :=
  if (freeVars I init).isEmpty then 0 else (optSupports I score init).length + 1

theorem irresoluteRunFuel_spec (ask : Oracle) (hask : OracleSpec ask) (I : Inst) (score : Pid → Rat)
    (init : List Pid) (hnd : I.projects.Nodup) (hinit : I.isFeasible init = true) (fuel : Nat)
    (hfuel : (optSupports I score init).length ≤ fuel) :
    ∃ L, (irresoluteRunFuel ask I score init fuel).result = .ok L ∧ L.Perm (optSupports I score init) ∧
      (irresoluteRunFuel ask I score init fuel).programs.length = expectedCalls I score init := by
  by_cases hemp : (freeVars I init).isEmpty = true
  · unfold irresoluteRunFuel expectedCalls
    rw [if_pos hemp, if_pos hemp]
    refine ⟨[[]], rfl, ?_, rfl⟩
    rw [optSupports_of_no_free I score init (List.isEmpty_iff.1 hemp) hinit]
  have hv := freeVars_nodup I init hnd
  obtain ⟨a₀, ha₀, hfa₀, hval, hmem₀⟩ := base_solve_spec (hask 0) I score init hnd hinit
  unfold irresoluteRunFuel expectedCalls
  rw [if_neg hemp, if_neg hemp, ha₀]
  simp only
  have hpos : 1 ≤ (optSupports I score init).length := List.length_pos_of_mem hmem₀
  obtain ⟨L, hL1, hL2, _, hL4⟩ := loop_spec ask hask hv (optSupports_sublist I score init)
    (optSupports_nodup I score init hnd) fuel 1 _ _ _ [baseProgram I score init] (LoopInv.init hval hmem₀)
    (by rw [List.length_singleton]; exact Nat.lt_of_lt_of_le (Nat.sub_one_lt (Nat.ne_of_gt hpos)) hfuel)
  refine ⟨L, hL1, hL2, ?_⟩
  rw [hL4, List.length_singleton, List.length_singleton, Nat.add_sub_cancel' hpos]

/-! ### the brute-force solver satisfies `SolverSpec` -/

theorem mem_termVars {t : List (Pid × Rat)} {e : Pid × Rat} (h : e ∈ t) : e.1 ∈ termVars t :=
  List.mem_map.2 ⟨e, h, rfl⟩

theorem mem_constrVars {cs : List Constr} {c : Constr} (hc : c ∈ cs) {e : Pid × Rat} (he : e ∈ c.terms) :
    e.1 ∈ constrVars cs := by
  induction cs with
  | nil => cases hc
  | cons d cs ih =>
    have hd : constrVars (d :: cs) = termVars d.terms ++ constrVars cs := rfl
    rw [hd, List.mem_append]
    rcases List.mem_cons.1 hc with rfl | h
    · exact Or.inl (mem_termVars he)
    · exact Or.inr (ih h)

theorem sat_congr (c : Constr) {a b : Assignment} (h : ∀ e ∈ c.terms, a e.1 = b e.1) : c.sat a = c.sat b := by
  have hl : c.lhs a = c.lhs b := by
    unfold Constr.lhs
    rw [evalLin_congr h]
  unfold Constr.sat
  rw [hl]

theorem program_congr (P : Program) {a b : Assignment} (h : ∀ p ∈ P.mentioned, a p = b p) :
    P.feasible a = P.feasible b ∧ P.objective a = P.objective b := by
  have hm : ∀ p, p ∈ P.mentioned ↔ p ∈ P.vars ++ termVars P.obj ++ constrVars P.constrs := by
    intro p; unfold Program.mentioned; exact mem_dedup_iff
  constructor
  · unfold Program.feasible
    apply all_congr_of_mem
    intro c hc
    apply sat_congr
    intro e he
    apply h
    rw [hm]
    exact List.mem_append_right _ (mem_constrVars hc he)
  · unfold Program.objective
    apply evalLin_congr
    intro e he
    apply h
    rw [hm]
    exact List.mem_append_left _ (List.mem_append_right _ (mem_termVars he))

theorem bestOf_eq_none_iff (P : Program) : ∀ cands : List (List Pid),
    bestOf P cands = none ↔ ∀ s ∈ cands, P.feasible (indicator s) = false
  | [] => by simp [bestOf]
  | s :: rest => by
    rw [bestOf, List.forall_mem_cons, ← bestOf_eq_none_iff P rest]
    by_cases hf : P.feasible (indicator s) = true
    · rw [if_pos hf]
      cases bestOf P rest <;> simp only [hf, Bool.true_eq_false, false_and, iff_false]
      · exact Option.some_ne_none _
      · split <;> exact Option.some_ne_none _
    · rw [if_neg hf]
      simp [hf]

theorem bestOf_some (P : Program) : ∀ (cands : List (List Pid)) (t : List Pid), bestOf P cands = some t →
    t ∈ cands ∧ P.feasible (indicator t) = true ∧
      ∀ s ∈ cands, P.feasible (indicator s) = true → P.objective (indicator s) ≤ P.objective (indicator t)
  | [], _, ht => nomatch ht
  | s :: rest, t, ht => by
    rw [bestOf] at ht
    by_cases hf : P.feasible (indicator s) = true
    · rw [if_pos hf] at ht
      cases hb : bestOf P rest with
      | none =>
        rw [hb] at ht
        obtain rfl := Option.some.inj ht
        refine ⟨List.mem_cons_self, hf, List.forall_mem_cons.mpr ⟨fun _ => le_refl _, fun s' hs' hfs' => ?_⟩⟩
        rw [(bestOf_eq_none_iff P rest).mp hb s' hs'] at hfs'
        exact absurd hfs' Bool.false_ne_true
      | some t₀ =>
        obtain ⟨h1, h2, h3⟩ := bestOf_some P rest t₀ hb
        rw [hb] at ht
        by_cases hlt : P.objective (indicator s) < P.objective (indicator t₀)
        · obtain rfl := Option.some.inj ((if_pos hlt).symm.trans ht)
          exact ⟨List.mem_cons_of_mem _ h1, h2, List.forall_mem_cons.mpr ⟨fun _ => hlt.le, h3⟩⟩
        · obtain rfl := Option.some.inj ((if_neg hlt).symm.trans ht)
          exact ⟨List.mem_cons_self, hf, List.forall_mem_cons.mpr
            ⟨fun _ => le_refl _, fun s' hs' hfs' => le_trans (h3 s' hs' hfs') (not_lt.mp hlt)⟩⟩
    · rw [if_neg hf] at ht
      obtain ⟨h1, h2, h3⟩ := bestOf_some P rest t ht
      exact ⟨List.mem_cons_of_mem _ h1, h2, List.forall_mem_cons.mpr ⟨fun h => absurd h hf, h3⟩⟩

/-- non-vacuity of the oracle hypothesis: exhaustive search is a solver in the sense of `SolverSpec` -/
theorem bruteSolve_spec : SolverSpec bruteSolve := by
  intro P
  have hcand : ∀ b : Assignment, P.mentioned.filter b ∈ sublists P.mentioned := fun b =>
    (mem_sublists _ _).2 List.filter_sublist
  have hind : ∀ b : Assignment, ∀ p ∈ P.mentioned, indicator (P.mentioned.filter b) p = b p := fun b p hp =>
    Bool.eq_iff_iff.mpr (by rw [indicator_eq_true, List.mem_filter, and_iff_right hp])
  constructor
  · intro a ha
    unfold bruteSolve at ha
    cases hb : bestOf P (sublists P.mentioned) with
    | none => rw [hb] at ha; cases ha
    | some t =>
      rw [hb] at ha
      have hat : indicator t = a := by injection ha
      subst hat
      obtain ⟨_, htf, hto⟩ := bestOf_some P _ t hb
      refine ⟨htf, fun b hbf => ?_⟩
      obtain ⟨hc1, hc2⟩ := program_congr P (hind b)
      rw [← hc2]
      apply hto _ (hcand b)
      rw [hc1]; exact hbf
  · intro hnone b
    unfold bruteSolve at hnone
    cases hb : bestOf P (sublists P.mentioned) with
    | none =>
      obtain ⟨hc1, _⟩ := program_congr P (hind b)
      rw [← hc1]
      exact (bestOf_eq_none_iff P _).mp hb _ (hcand b)
    | some t => rw [hb] at hnone; cases hnone

/-! ### a solver that is only specified on programs with variables (python-mip) -/

/-- complete a solver on the variable-free programs (never posed by the code since the early return) -/
def patch (solve : Program → Option Assignment) : Program → Option Assignment :=
  fun P => if P.vars.isEmpty then bruteSolve P else solve P

theorem patch_spec {solve : Program → Option Assignment} (hs : SolverSpecNE solve) : SolverSpec (patch solve) := by
  intro P
  unfold patch
  by_cases h : P.vars.isEmpty = true
  · rw [if_pos h]; exact bruteSolve_spec P
  · rw [if_neg h]
    exact hs P (fun h' => h (List.isEmpty_iff.2 h'))

theorem patch_of_vars {solve : Program → Option Assignment} {P : Program} (h : P.vars ≠ []) : patch solve P = solve P := by
  unfold patch
  rw [if_neg (fun h' => h (List.isEmpty_iff.1 h'))]

theorem addCuts_vars (P : Program) (S : List Pid) : (P.addCuts S).vars = P.vars := rfl

/-- the loop only ever poses programs with the variables it started with -/
theorem loop_congr (ask ask' : Oracle) (vars : List Pid)
    (h : ∀ k (P : Program), P.vars = vars → ask k P = ask' k P) :
    ∀ (fuel k : Nat) (P : Program) (prev : List Pid) (all : List (List Pid)) (progs : List Program),
      P.vars = vars → loop ask fuel k P prev all progs = loop ask' fuel k P prev all progs := by
  intro fuel
  induction fuel with
  | zero => intro k P prev all progs _; rfl
  | succ f ih =>
    intro k P prev all progs hP
    rw [loop, loop, h k (P.addCuts prev) (by rw [addCuts_vars]; exact hP)]
    cases ask' k (P.addCuts prev) with
    | none => rfl
    | some a => exact ih (k+1) (P.addCuts prev) _ _ _ (by rw [addCuts_vars]; exact hP)

theorem baseProgram_vars (I : Inst) (score : Pid → Rat) (init : List Pid) :
    (baseProgram I score init).vars = freeVars I init := rfl

theorem resolute_patch (solve : Program → Option Assignment) (I : Inst) (score : Pid → Rat) (init : List Pid) :
    resolute (patch solve) I score init = resolute solve I score init := by
  unfold resolute
  by_cases hemp : (freeVars I init).isEmpty = true
  · rw [if_pos hemp, if_pos hemp]
  · rw [if_neg hemp, if_neg hemp, patch_of_vars]
    rw [baseProgram_vars]
    exact fun h' => hemp (List.isEmpty_iff.2 h')

theorem irresoluteRunFuel_patch (ask : Oracle) (I : Inst) (score : Pid → Rat) (init : List Pid) (fuel : Nat) :
    irresoluteRunFuel (fun k => patch (ask k)) I score init fuel = irresoluteRunFuel ask I score init fuel := by
  unfold irresoluteRunFuel
  by_cases hemp : (freeVars I init).isEmpty = true
  · rw [if_pos hemp, if_pos hemp]
  · have hne : freeVars I init ≠ [] := fun h' => hemp (List.isEmpty_iff.2 h')
    rw [if_neg hemp, if_neg hemp]
    have h0 : patch (ask 0) (baseProgram I score init) = ask 0 (baseProgram I score init) :=
      patch_of_vars (by rw [baseProgram_vars]; exact hne)
    simp only [h0]
    cases ask 0 (baseProgram I score init) with
    | none => rfl
    | some a =>
      exact loop_congr _ _ (freeVars I init) (fun k P hP => patch_of_vars (by rw [hP]; exact hne)) _ _ _ _ _ _ rfl

/-! ### the canonical form printed by the driver has the same meaning -/

theorem insertTerm_perm (e : Pid × Rat) (t : List (Pid × Rat)) : (insertTerm e t).Perm (e :: t) := by
  induction t with
  | nil => exact List.Perm.refl _
  | cons f r ih =>
    rw [insertTerm]
    by_cases h : e.1 ≤ f.1
    · rw [if_pos h]
    · rw [if_neg h]
      exact ((List.Perm.cons f ih).trans (List.Perm.swap e f r))

theorem sortTerms_perm (t : List (Pid × Rat)) : (sortTerms t).Perm t := by
  induction t with
  | nil => exact List.Perm.refl _
  | cons e t ih =>
    have h : sortTerms (e :: t) = insertTerm e (sortTerms t) := rfl
    rw [h]
    exact (insertTerm_perm e _).trans (List.Perm.cons e ih)

theorem evalLin_filter_nonzero (a : Assignment) (t : List (Pid × Rat)) :
    evalLin a (t.filter (fun e => !decide (e.2 = 0))) = evalLin a t := by
  induction t with
  | nil => rfl
  | cons e t ih =>
    rw [List.filter_cons]
    by_cases h : e.2 = 0
    · simp only [h, decide_true, Bool.not_true, Bool.false_eq_true, if_false]
      rw [evalLin_cons, ih, h]
      ring
    · simp only [h, decide_false, Bool.not_false, if_true]
      rw [evalLin_cons, evalLin_cons, ih]

/-- `Constr.canon` (zero coefficients dropped, terms sorted, constant moved to the right) keeps the meaning -/
theorem canon_sat (c : Constr) (a : Assignment) : c.canon.sat a = c.sat a := by
  have hl : c.canon.lhs a = evalLin a c.terms := by
    unfold Constr.lhs Constr.canon
    simp only
    rw [evalLin_perm a (sortTerms_perm _), evalLin_filter_nonzero, add_zero]
  have hr : c.canon.rhs = c.rhs - c.const := rfl
  have hs : c.canon.sense = c.sense := rfl
  unfold Constr.sat
  rw [hs, hl, hr]
  unfold Constr.lhs
  cases c.sense
  · exact decide_eq_decide.mpr le_sub_iff_add_le
  · exact decide_eq_decide.mpr sub_le_iff_le_add
  · exact decide_eq_decide.mpr eq_sub_iff_add_eq

end WelfareILP
end Pabu
