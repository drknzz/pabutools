/-
  Lemmas for "Equal Shares satisfies EJR up to any / one project" (Peters, Pierczyński, Skowron 2021, Thm 2;
  Brill et al. 2023 for the approval measures), on the model `PabuModel.MES`.

  A group is a list `G` of distinct voter entries of the run, its size is the sum of their multiplicities.
  * `exists_poor` / `unbought_means_spent`: if every member of `G` supports a pool project `c` that the run
    did not buy, some member ends with less than `cost c / |G|`, i.e. has spent more than `b0 − cost c / |G|`.
  * `rho_le_of_rich` / `price_bounded_while_rich`: while every member of `G` holds at least `cost c / |G|`, the
    price per unit of utility of `c`, hence of whatever is bought, is at most `cost c / (|G| · u(c))`.
  * `Recorded.track`: the induction along a recorded run that combines the two.
  * `runAt_price_bound`: if each project `p` bought while the group is rich has price per unit of utility at most
    `π p`, some member `j` has `b0 − cost c / |G| < Σ_{p ∈ W} π p · u_j(p)`; `runAt_utility_bound` is a constant `π`,
    `runAt_cost_bound` its Cost_Sat instance, `runAt_card_bound` the Cardinality_Sat case (`π p = cost p / |G|` on `T`).
-/
import PabuProofs.Lemmas.MES
namespace Pabu

namespace MesEJR
open Pabu.MES

/-! ### arithmetic of shares -/

theorem scale_lt {g b c x : Rat} (hg : 0 < g) (h : b - c / g < x / g) : g * b - c < x := by
  have e : (g * b - c) / g = b - c / g := by rw [sub_div, mul_div_cancel_left₀ _ hg.ne']
  exact (div_lt_div_iff_of_pos_right hg).mp (e ▸ h)

theorem share_le {g b c t : Rat} (hg : 0 < g) (hct : c ≤ t) (ht : t ≤ g * b) : c / g ≤ b :=
  (div_le_iff₀' hg).mpr (hct.trans ht)

theorem nat_le_of_sub_one_lt {m n : Nat} (h : (m : Rat) - 1 < n) : m ≤ n :=
  Nat.lt_succ_iff.mp (by exact_mod_cast sub_lt_iff_lt_add.mp h)

/-! ### money of the supporters -/

theorem pay_le_mul (V : VCtx) (b : Nat → Rat) (t : Pid) (r : Rat) (i : Nat) (hu : 0 ≤ V.u i t) :
    pay V b t r i ≤ r * V.u i t := by
  by_cases h : 0 < V.u i t
  · rw [pay_supporter V b t r i h]; exact min_le_right _ _
  · rw [pay_nonsupporter V b t r i h, le_antisymm (not_lt.mp h) hu, mul_zero]

def gsize (V : VCtx) (G : List Nat) : Nat := sumNat G V.m

theorem gsize_mul_le {V : VCtx} {G : List Nat} {q : Rat} {x : Nat → Rat} (h : ∀ i ∈ G, q ≤ x i) :
    ((gsize V G : Nat) : Rat) * q ≤ sumOver G (fun i => (V.m i : Rat) * x i) :=
  sumOver_natCast_mul V.m q G ▸ sumOver_mono fun i hi => mul_le_mul_of_nonneg_left (h i hi) (Nat.cast_nonneg _)

theorem exists_poor {V : VCtx} {cost : Pid → Rat} {b : Nat → Rat} {c : Pid}
    (hnn : ∀ i ∈ V.vs, 0 ≤ b i) (G : List Nat) (hnd : G.Nodup)
    (hsup : ∀ i ∈ G, i ∈ supporters V c) (hg : 0 < gsize V G)
    (hlt : budSum (sups V b c) < cost c) :
    ∃ j ∈ G, b j < cost c / ((gsize V G : Nat) : Rat) := by
  by_contra hcon
  push Not at hcon
  have hgq : ((gsize V G : Nat) : Rat) ≠ 0 := Nat.cast_ne_zero.mpr hg.ne'
  have h1 := gsize_mul_le (V := V) hcon
  rw [mul_div_cancel₀ _ hgq] at h1
  have h2 : sumOver G (fun i => (V.m i : Rat) * b i) ≤
      sumOver (supporters V c) (fun i => (V.m i : Rat) * b i) :=
    sumOver_le_of_subset hnd hsup fun i hi =>
      mul_nonneg (Nat.cast_nonneg _) (hnn i (mem_supporters.mp hi).1)
  rw [budSum_sups_eq] at hlt
  exact absurd (h1.trans h2) (not_le.mpr hlt)

theorem rho_le_of_rich {V : VCtx} {cost : Pid → Rat} {b : Nat → Rat} {p : Pid}
    (hok : VOK V b) (hc : 0 < cost p) (G : List Nat) (hnd : G.Nodup) (hvs : ∀ i ∈ G, i ∈ V.vs)
    (w : Rat) (hw : 0 < w) (hu : ∀ i ∈ G, V.u i p = w) (hg : 0 < gsize V G)
    (hrich : ∀ i ∈ G, cost p / ((gsize V G : Nat) : Rat) ≤ b i) :
    ∃ r, rho V cost b p = some r ∧ r ≤ cost p / (((gsize V G : Nat) : Rat) * w) := by
  have hgq : (0 : Rat) < ((gsize V G : Nat) : Rat) := Nat.cast_pos.mpr hg
  have hr'pos : 0 < cost p / (((gsize V G : Nat) : Rat) * w) := div_pos hc (mul_pos hgq hw)
  have hrw : cost p / (((gsize V G : Nat) : Rat) * w) * w = cost p / ((gsize V G : Nat) : Rat) := by
    rw [← div_div, div_mul_cancel₀ _ hw.ne']
  -- at that price every member of `G` pays `cost p / |G|`, so the supporters cover the cost
  have hpay : cost p ≤ paySum (cost p / (((gsize V G : Nat) : Rat) * w)) (sups V b p) := by
    have h1 := gsize_mul_le (V := V) (G := G) (q := cost p / ((gsize V G : Nat) : Rat))
      (x := pay V b p (cost p / (((gsize V G : Nat) : Rat) * w))) fun i hi => by
        rw [pay_supporter V b p _ i (by rw [hu i hi]; exact hw), hu i hi, hrw, min_eq_right (hrich i hi)]
    rw [mul_div_cancel₀ _ hgq.ne'] at h1
    rw [← pay_sum]
    exact h1.trans (sumOver_le_of_subset hnd hvs fun i hi =>
      mul_nonneg (Nat.cast_nonneg _) (pay_nonneg V b p _ i (hok.nonneg i hi) hr'pos.le))
  cases hr : rho V cost b p with
  | none =>
    exact absurd (hpay.trans (paySum_le_budSum _ _)) (not_le.mpr ((rho_none_iff hok hc).mp hr))
  | some r => exact ⟨r, rfl, rho_least hok hc hr _ hpay⟩

theorem price_bounded_while_rich {V : VCtx} {cost : Pid → Rat} {s : State} {c : Pid}
    (hok : VOK V s.b) (hcp : c ∈ s.pool) (hc : 0 < cost c) (G : List Nat) (hnd : G.Nodup)
    (hvs : ∀ i ∈ G, i ∈ V.vs) (w : Rat) (hw : 0 < w) (hu : ∀ i ∈ G, V.u i c = w) (hg : 0 < gsize V G)
    (hrich : ∀ i ∈ G, cost c / ((gsize V G : Nat) : Rat) ≤ s.b i)
    {t : Pid} {r : Rat} (ht : t ∈ tied V cost s) (hr : rho V cost s.b t = some r) :
    r ≤ cost c / (((gsize V G : Nat) : Rat) * w) := by
  obtain ⟨rc, hrc, hle⟩ := rho_le_of_rich hok hc G hnd hvs w hw hu hg hrich
  obtain ⟨_, r0, hr0, hmin⟩ := mem_tied_iff.mp ht
  rw [hr] at hr0
  cases hr0
  exact le_trans (hmin c hcp rc hrc) hle

/-- if `t` is the cheaper one the group is rich enough for `t` itself, if not the bound through `c` is the smaller one -/
theorem price_le_own_cost {V : VCtx} {cost : Pid → Rat} {s : State} {c : Pid}
    (hok : VOK V s.b) (hcp : c ∈ s.pool) (hc : 0 < cost c) (G : List Nat) (hnd : G.Nodup)
    (hvs : ∀ i ∈ G, i ∈ V.vs) (w : Rat) (hw : 0 < w) (hu : ∀ i ∈ G, V.u i c = w) (hg : 0 < gsize V G)
    (hrich : ∀ i ∈ G, cost c / ((gsize V G : Nat) : Rat) ≤ s.b i)
    {t : Pid} {r : Rat} (ht : t ∈ tied V cost s) (hr : rho V cost s.b t = some r)
    (hct : 0 < cost t) (hut : ∀ i ∈ G, V.u i t = w) :
    r ≤ cost t / (((gsize V G : Nat) : Rat) * w) := by
  have hgq : (0 : Rat) < ((gsize V G : Nat) : Rat) := Nat.cast_pos.mpr hg
  rcases le_total (cost t) (cost c) with h | h
  · obtain ⟨r', hr', hle⟩ := rho_le_of_rich hok hct G hnd hvs w hw hut hg fun i hi =>
      (div_le_div_of_nonneg_right h hgq.le).trans (hrich i hi)
    rw [hr] at hr'
    cases hr'
    exact hle
  · exact (price_bounded_while_rich hok hcp hc G hnd hvs w hw hu hg hrich ht hr).trans
      (div_le_div_of_nonneg_right h (mul_pos hgq hw).le)

/-! ### the induction along a run -/

/-- what is tracked along the run for a group `G`, a threshold `q`, the initial money `b0` and per-voter caps
    `cap i p` on what voter `i` pays for `p`: either every member still holds at least `q` and has spent at most
    the caps of the projects bought so far, or some member has already been charged more than `b0 − q` worth of caps -/
def Track (G : List Nat) (q b0 : Rat) (cap : Nat → Pid → Rat) (s : State) : Prop :=
  (∀ i ∈ G, q ≤ s.b i ∧ b0 - s.b i ≤ sumOver s.alloc (cap i)) ∨
    (∃ j ∈ G, b0 - q < sumOver s.alloc (cap j))

theorem Recorded.track {V : VCtx} {I : Inst} {init : List Pid} {b1 : Rat} (hm : ∀ i ∈ V.vs, 1 ≤ V.m i)
    {s s' : State} {L : List Iteration} (hrec : Recorded V I.cost s L s')
    (G : List Nat) (c : Pid) (q b0 : Rat) (cap : Nat → Pid → Rat)
    (hcap : ∀ i ∈ G, ∀ p ∈ I.projects, 0 ≤ cap i p)
    (hstep : ∀ (st : State) (t : Pid) (r : Rat), Good V I init b1 st → c ∈ st.pool →
      (∀ i ∈ G, q ≤ st.b i) → t ∈ tied V I.cost st → rho V I.cost st.b t = some r →
      ∀ i ∈ G, pay V st.b t r i ≤ cap i t) :
    Good V I init b1 s → c ∈ s.pool → c ∉ s'.alloc → Track G q b0 cap s → Track G q b0 cap s' := by
  induction hrec with
  | stop s => intro _ _ _ h; exact h
  | step s t r rest s' ht hr hb hrec ih =>
    intro hgood hc hc' hJ
    have hbuy := buy_some hr
    have hct : c ≠ t := by
      rintro rfl
      apply hc'
      rw [hrec.alloc, hbuy]
      simp
    have hcpool' : c ∈ (buy V I.cost s t).pool := by
      rw [buy_pool]
      exact List.mem_filter.mpr ⟨hc, by simpa using hct⟩
    apply ih (good_buy hm s t hgood ht) hcpool' hc'
    rw [hbuy]
    unfold Track
    simp only [sumOver_append, sumOver_cons, sumOver_nil]
    rcases hJ with h1 | ⟨j, hj, h2⟩
    · have hpay := hstep s t r hgood hc (fun i hi => (h1 i hi).1) ht hr
      by_cases hrich : ∀ i ∈ G, q ≤ s.b i - pay V s.b t r i
      · left
        intro i hi
        exact ⟨hrich i hi, by linarith only [hpay i hi, (h1 i hi).2]⟩
      · right
        push Not at hrich
        obtain ⟨j, hj, hlt⟩ := hrich
        exact ⟨j, hj, by linarith only [hlt, hpay j hj, (h1 j hj).2]⟩
    · right
      exact ⟨j, hj, by linarith only [h2, hcap j hj t (hgood.2.pool_sub t (tied_sub_pool ht))]⟩

theorem exists_cheapest_missing {V : VCtx} {I : Inst} {init : List Pid} (hm : ∀ i ∈ V.vs, 1 ≤ V.m i)
    {order : List Pid → Except Err (List Pid)}
    (hord : ∀ T l, order T = .ok l → ∀ x ∈ l, x ∈ T) {b0 : Rat} {W : List Pid}
    (hW : runAt V I init order b0 = .ok W) {G : List Nat} (hvs : ∀ i ∈ G, i ∈ V.vs) (hg : 0 < gsize V G)
    {T : List Pid} (hTproj : ∀ p ∈ T, p ∈ I.projects) (hpos : ∀ i ∈ G, ∀ p ∈ T, 0 < V.u i p)
    (hmiss : ∃ p ∈ T, p ∉ W) :
    ∃ c ∈ T, c ∉ W ∧ c ∈ initPool V I init ∧ (∀ i ∈ G, i ∈ supporters V c) ∧
      ∀ p ∈ T, p ∉ W → I.cost c ≤ I.cost p := by
  obtain ⟨p, hp, hpW⟩ := hmiss
  obtain ⟨c, hcm, hcmin⟩ := exists_min_image I.cost (l := T.filter (fun p => !decide (p ∈ W)))
    (List.ne_nil_of_mem (List.mem_filter.mpr ⟨hp, by simpa using hpW⟩))
  have hcT : c ∈ T := (List.mem_filter.mp hcm).1
  have hcW : c ∉ W := by simpa using (List.mem_filter.mp hcm).2
  have hsup : ∀ i ∈ G, i ∈ supporters V c := fun i hi => mem_supporters.mpr ⟨hvs i hi, hpos i hi c hcT⟩
  obtain ⟨i0, hi0⟩ := List.exists_mem_of_ne_nil G fun hG => by simp [hG, gsize] at hg
  obtain ⟨L, s', _, hrec, rfl, _⟩ := runAt_recorded hord hW
  exact ⟨c, hcT, hcW, hrec.mem_initPool_of_unbought hm (hTproj c hcT) (hsup i0 hi0) hcW, hsup,
    fun p hp hpW => hcmin p (List.mem_filter.mpr ⟨hp, by simpa using hpW⟩)⟩

theorem unbought_means_spent {V : VCtx} {I : Inst} {init : List Pid} (h : InputOK V I init)
    {order : List Pid → Except Err (List Pid)}
    (hord : ∀ T l, order T = .ok l → ∀ x ∈ l, x ∈ T) (hne : ∀ T, T ≠ [] → order T ≠ .ok [])
    {b0 : Rat} (hb0 : 0 ≤ b0) {W : List Pid} (hW : runAt V I init order b0 = .ok W)
    (G : List Nat) (hnd : G.Nodup) (hg : 0 < gsize V G) (c : Pid) (hcpool : c ∈ initPool V I init)
    (hcW : c ∉ W) (hsup : ∀ i ∈ G, i ∈ supporters V c) :
    ∃ L s', trace V I.cost order (initPool V I init).length (initState V I init b0) = .ok L ∧
      Recorded V I.cost (initState V I init b0) L s' ∧ W = s'.alloc ∧
      Good V I init b0 s' ∧ c ∈ s'.pool ∧
      ∃ j ∈ G, b0 - I.cost c / ((gsize V G : Nat) : Rat) < b0 - s'.b j := by
  obtain ⟨L, s', hL, hrec, hWs, hterm⟩ := runAt_recorded hord hW
  have hgood := hrec.good h.mult (h.good hb0)
  have hcs' : c ∈ s'.pool := hrec.unbought_mem_pool hcpool (hWs ▸ hcW)
  have hlt := (rho_none_iff ⟨hgood.1.nonneg, h.mult⟩ (hgood.1.pool_pos c hcs')).mp (hterm hne c hcs')
  obtain ⟨j, hj, hpoor⟩ := exists_poor hgood.1.nonneg G hnd hsup hg hlt
  exact ⟨L, s', hL, hrec, hWs, hgood, hcs', j, hj, sub_lt_sub_left hpoor b0⟩

theorem runAt_track {V : VCtx} {I : Inst} {init : List Pid} (h : InputOK V I init)
    {order : List Pid → Except Err (List Pid)}
    (hord : ∀ T l, order T = .ok l → ∀ x ∈ l, x ∈ T) (hne : ∀ T, T ≠ [] → order T ≠ .ok [])
    {b0 : Rat} (hb0 : 0 ≤ b0) {W : List Pid} (hW : runAt V I init order b0 = .ok W)
    (G : List Nat) (hnd : G.Nodup) (hg : 0 < gsize V G) (c : Pid) (hcpool : c ∈ initPool V I init)
    (hcW : c ∉ W) (hsup : ∀ i ∈ G, i ∈ supporters V c)
    (hq : I.cost c / ((gsize V G : Nat) : Rat) ≤ b0)
    (cap : Nat → Pid → Rat) (hcap : ∀ i ∈ G, ∀ p ∈ I.projects, 0 ≤ cap i p)
    (hstep : ∀ (st : State) (t : Pid) (r : Rat), Good V I init b0 st → c ∈ st.pool →
      (∀ i ∈ G, I.cost c / ((gsize V G : Nat) : Rat) ≤ st.b i) → t ∈ tied V I.cost st →
      rho V I.cost st.b t = some r → ∀ i ∈ G, pay V st.b t r i ≤ cap i t) :
    ∃ j ∈ G, b0 - I.cost c / ((gsize V G : Nat) : Rat) < sumOver W (cap j) := by
  obtain ⟨L, s', _, hrec, hWs, _, _, j, hj, hpoor⟩ :=
    unbought_means_spent h hord hne hb0 hW G hnd hg c hcpool hcW hsup
  have hgood0 := h.good hb0
  have hinit : Track G (I.cost c / ((gsize V G : Nat) : Rat)) b0 cap (initState V I init b0) :=
    Or.inl fun i hi => ⟨hq, (sub_self b0).trans_le
      (sumOver_nonneg _ _ fun p hp => hcap i hi p (hgood0.2.alloc_sub p hp))⟩
  rw [hWs]
  -- the poor member `j` rules out the first alternative of `Track` at the stop
  rcases Recorded.track h.mult hrec G c _ b0 cap hcap hstep hgood0 hcpool (hWs ▸ hcW) hinit with h1 | h1
  · exact absurd (h1 j hj).1 (not_le.mpr (sub_lt_sub_iff_left b0 |>.mp hpoor))
  · exact h1

theorem runAt_price_bound {V : VCtx} {I : Inst} {init : List Pid} (h : InputOK V I init)
    {order : List Pid → Except Err (List Pid)}
    (hord : ∀ T l, order T = .ok l → ∀ x ∈ l, x ∈ T) (hne : ∀ T, T ≠ [] → order T ≠ .ok [])
    {b0 : Rat} (hb0 : 0 ≤ b0) {W : List Pid} (hW : runAt V I init order b0 = .ok W)
    (G : List Nat) (hnd : G.Nodup) (hg : 0 < gsize V G) (c : Pid) (hcpool : c ∈ initPool V I init)
    (hcW : c ∉ W) (hsup : ∀ i ∈ G, i ∈ supporters V c)
    (hq : I.cost c / ((gsize V G : Nat) : Rat) ≤ b0)
    (hunn : ∀ i ∈ G, ∀ p ∈ I.projects, 0 ≤ V.u i p)
    (π : Pid → Rat) (hπ : ∀ p ∈ I.projects, 0 ≤ π p)
    (hstep : ∀ (st : State) (t : Pid) (r : Rat), Good V I init b0 st → c ∈ st.pool →
      (∀ i ∈ G, I.cost c / ((gsize V G : Nat) : Rat) ≤ st.b i) → t ∈ tied V I.cost st →
      rho V I.cost st.b t = some r → r ≤ π t) :
    ∃ j ∈ G, b0 - I.cost c / ((gsize V G : Nat) : Rat) < sumOver W (fun p => π p * V.u j p) :=
  runAt_track h hord hne hb0 hW G hnd hg c hcpool hcW hsup hq (fun i p => π p * V.u i p)
    (fun i hi p hp => mul_nonneg (hπ p hp) (hunn i hi p hp))
    fun st t r hgood hcp hrich ht hr i hi =>
      have hu := hunn i hi t (hgood.2.pool_sub t (tied_sub_pool ht))
      (pay_le_mul V st.b t r i hu).trans (mul_le_mul_of_nonneg_right (hstep st t r hgood hcp hrich ht hr) hu)

theorem runAt_utility_bound {V : VCtx} {I : Inst} {init : List Pid} (h : InputOK V I init)
    {order : List Pid → Except Err (List Pid)}
    (hord : ∀ T l, order T = .ok l → ∀ x ∈ l, x ∈ T) (hne : ∀ T, T ≠ [] → order T ≠ .ok [])
    {b0 : Rat} (hb0 : 0 ≤ b0) {W : List Pid} (hW : runAt V I init order b0 = .ok W)
    (G : List Nat) (hnd : G.Nodup) (hvs : ∀ i ∈ G, i ∈ V.vs) (hg : 0 < gsize V G)
    (c : Pid) (hcpool : c ∈ initPool V I init) (hcW : c ∉ W)
    (hunn : ∀ i ∈ G, ∀ p ∈ I.projects, 0 ≤ V.u i p) (w : Rat) (hw : 0 < w) (huc : ∀ i ∈ G, V.u i c = w)
    (hq : I.cost c / ((gsize V G : Nat) : Rat) ≤ b0) :
    ∃ j ∈ G, b0 - I.cost c / ((gsize V G : Nat) : Rat) <
      I.cost c / (((gsize V G : Nat) : Rat) * w) * sumOver W (V.u j) := by
  have hc : 0 < I.cost c := (mem_initPool.mp hcpool).2.2.2
  have hgq : (0 : Rat) < ((gsize V G : Nat) : Rat) := Nat.cast_pos.mpr hg
  obtain ⟨j, hj, hlt⟩ := runAt_price_bound h hord hne hb0 hW G hnd hg c hcpool hcW
    (fun i hi => mem_supporters.mpr ⟨hvs i hi, huc i hi ▸ hw⟩) hq hunn
    (fun _ => I.cost c / (((gsize V G : Nat) : Rat) * w)) (fun _ _ => (div_pos hc (mul_pos hgq hw)).le)
    fun st t r hgood hcp hrich ht hr =>
      price_bounded_while_rich ⟨hgood.1.nonneg, h.mult⟩ hcp hc G hnd hvs w hw huc hg hrich ht hr
  rw [sumOver_mul_left] at hlt
  exact ⟨j, hj, hlt⟩

/-! ### the two approval measures -/

theorem runAt_cost_bound {V : VCtx} {I : Inst} {init : List Pid} (h : InputOK V I init)
    {order : List Pid → Except Err (List Pid)}
    (hord : ∀ T l, order T = .ok l → ∀ x ∈ l, x ∈ T) (hne : ∀ T, T ≠ [] → order T ≠ .ok [])
    {b0 : Rat} (hb0 : 0 ≤ b0) {W : List Pid} (hW : runAt V I init order b0 = .ok W)
    (G : List Nat) (hnd : G.Nodup) (hvs : ∀ i ∈ G, i ∈ V.vs) (hg : 0 < gsize V G)
    (T : List Pid) (hTcost : ∀ p ∈ T, 0 ≤ I.cost p)
    (hcoh : costOf I.cost T ≤ ((gsize V G : Nat) : Rat) * b0)
    (hunn : ∀ i ∈ G, ∀ p ∈ I.projects, 0 ≤ V.u i p) (hT : ∀ i ∈ G, ∀ p ∈ T, V.u i p = I.cost p)
    (c : Pid) (hcT : c ∈ T) (hcpool : c ∈ initPool V I init) (hcW : c ∉ W) :
    ∃ j ∈ G, costOf I.cost T - I.cost c < sumOver W (V.u j) := by
  have hc : 0 < I.cost c := (mem_initPool.mp hcpool).2.2.2
  have hgq : (0 : Rat) < ((gsize V G : Nat) : Rat) := Nat.cast_pos.mpr hg
  obtain ⟨j, hj, hlt⟩ := runAt_utility_bound h hord hne hb0 hW G hnd hvs hg c hcpool hcW hunn
    (I.cost c) hc (fun i hi => hT i hi c hcT) (share_le hgq (le_sumOver_of_mem hTcost hcT) hcoh)
  -- the price per unit of utility is `1 / |G|`
  rw [div_mul_eq_mul_div, mul_comm (I.cost c) (sumOver W (V.u j)), mul_div_mul_right _ _ hc.ne'] at hlt
  exact ⟨j, hj, (sub_le_sub_right hcoh _).trans_lt (scale_lt hgq hlt)⟩

/-- the counting behind `runAt_card_bound`: the part of `W` inside `T` accounts for at most the cost of `T ∩ W`; the rest of `T`
    costs at least `|T \ W| · cost c`, so more than `|T \ W| − 1`, hence at least `|T \ W|`, approved projects of
    `W` lie outside `T`. -/
theorem card_count {T W : List Pid} (hT : T.Nodup) (hW : W.Nodup) {cost u : Pid → Rat} {c : Pid}
    (hc : 0 < cost c) (hmin : ∀ p ∈ T, p ∉ W → cost c ≤ cost p)
    (a : Pid → Bool) (hu : ∀ p, u p = if a p = true then 1 else 0) (haT : ∀ p ∈ T, a p = true)
    {gb : Rat} (hcoh : costOf cost T ≤ gb)
    (hlt : gb - cost c < sumOver W (fun p => (if p ∈ T then cost p else cost c) * u p)) :
    sumOver T u ≤ sumOver W u := by
  have hu1 : ∀ p ∈ T, u p = 1 := fun p hp => by rw [hu p, if_pos (haT p hp)]
  have e1 : sumOver (W.filter (fun p => decide (p ∈ T))) (fun p => (if p ∈ T then cost p else cost c) * u p) =
      sumOver (T.filter (fun p => decide (p ∈ W))) cost := by
    rw [← sumOver_perm (filter_mem_perm hW hT) cost]
    refine sumOver_congr fun p hp => ?_
    have hpT : p ∈ T := of_decide_eq_true (List.mem_filter.mp hp).2
    rw [if_pos hpT, hu1 p hpT, mul_one]
  have e2 : sumOver (W.filter (fun p => !decide (p ∈ T))) (fun p => (if p ∈ T then cost p else cost c) * u p) =
      cost c * sumOver (W.filter (fun p => !decide (p ∈ T))) u := by
    rw [← sumOver_mul_left]
    refine sumOver_congr fun p hp => ?_
    rw [if_neg (by simpa using (List.mem_filter.mp hp).2)]
  have e3 : costOf cost T = sumOver (T.filter (fun p => decide (p ∈ W))) cost +
      sumOver (T.filter (fun p => !decide (p ∈ W))) cost := sumOver_filter_add T _ cost
  have e4 : ((T.filter (fun p => !decide (p ∈ W))).length : Rat) * cost c ≤
      sumOver (T.filter (fun p => !decide (p ∈ W))) cost :=
    length_mul_le_sumOver fun p hp =>
      hmin p (List.mem_filter.mp hp).1 (by simpa using (List.mem_filter.mp hp).2)
  have e5 : sumOver (W.filter (fun p => !decide (p ∈ T))) u =
      (((W.filter (fun p => !decide (p ∈ T))).filter a).length : Rat) := by
    rw [← sumOver_indicator_length]
    exact sumOver_congr fun p _ => hu p
  rw [sumOver_filter_add W (fun p => decide (p ∈ T)), e1, e2, e5] at hlt
  have hnat : (T.filter (fun p => !decide (p ∈ W))).length ≤
      ((W.filter (fun p => !decide (p ∈ T))).filter a).length :=
    nat_le_of_sub_one_lt (lt_of_mul_lt_mul_left (a := cost c) (by linarith only [hlt, hcoh, e3, e4]) hc.le)
  have e6 : sumOver (T.filter (fun p => !decide (p ∈ W))) u =
      ((T.filter (fun p => !decide (p ∈ W))).length : Rat) := by
    rw [sumOver_congr fun p hp => hu1 p (List.mem_filter.mp hp).1, sumOver_const, mul_one]
  rw [sumOver_filter_add T (fun p => decide (p ∈ W)) u, sumOver_filter_add W (fun p => decide (p ∈ T)) u,
    sumOver_perm (filter_mem_perm hT hW) u, e5, e6]
  exact add_le_add le_rfl (Nat.cast_le.mpr hnat)

/-- plain EJR for 0/1 utilities.  The project `c` of the bound is a cheapest one of `T` outside `W`; a project `p ∈ T`
    bought while the group is rich costs each member at most `cost p / |G|`, any other at most `cost c / |G|`. -/
theorem runAt_card_bound {V : VCtx} {I : Inst} {init : List Pid} (h : InputOK V I init)
    {order : List Pid → Except Err (List Pid)}
    (hord : ∀ T l, order T = .ok l → ∀ x ∈ l, x ∈ T) (hne : ∀ T, T ≠ [] → order T ≠ .ok [])
    {b0 : Rat} (hb0 : 0 ≤ b0) {W : List Pid} (hW : runAt V I init order b0 = .ok W)
    (G : List Nat) (hnd : G.Nodup) (hvs : ∀ i ∈ G, i ∈ V.vs) (hg : 0 < gsize V G)
    (T : List Pid) (hTnd : T.Nodup) (hTproj : ∀ p ∈ T, p ∈ I.projects)
    (hcoh : costOf I.cost T ≤ ((gsize V G : Nat) : Rat) * b0)
    (a : Nat → Pid → Bool) (hu : ∀ i ∈ G, ∀ p, V.u i p = if a i p = true then 1 else 0)
    (hT : ∀ i ∈ G, ∀ p ∈ T, a i p = true) (hmiss : ∃ p ∈ T, p ∉ W) :
    ∃ j ∈ G, (T.length : Rat) ≤ sumOver W (V.u j) := by
  have hgq : (0 : Rat) < ((gsize V G : Nat) : Rat) := Nat.cast_pos.mpr hg
  have hWnd : W.Nodup := (runAt_bounds h hord hb0 hW).2.2.1
  have hTcost : ∀ p ∈ T, 0 ≤ I.cost p := fun p hp => h.cost_nonneg p (hTproj p hp)
  have huT : ∀ i ∈ G, ∀ p ∈ T, V.u i p = 1 := fun i hi p hp => by rw [hu i hi p, if_pos (hT i hi p hp)]
  have hunn : ∀ i ∈ G, ∀ p ∈ I.projects, 0 ≤ V.u i p := fun i hi p _ => by
    rw [hu i hi p]; split
    exacts [zero_le_one, le_rfl]
  obtain ⟨c, hcT, hcW, hcpool, hsup, hcmin⟩ := exists_cheapest_missing h.mult hord hW hvs hg hTproj
    (fun i hi p hp => huT i hi p hp ▸ one_pos) hmiss
  have hc : 0 < I.cost c := (mem_initPool.mp hcpool).2.2.2
  obtain ⟨j, hj, hlt⟩ := runAt_price_bound h hord hne hb0 hW G hnd hg c hcpool hcW hsup
    (share_le hgq (le_sumOver_of_mem hTcost hcT) hcoh) hunn
    (fun p => (if p ∈ T then I.cost p else I.cost c) / ((gsize V G : Nat) : Rat))
    (fun p _ => div_nonneg (by split; exacts [hTcost p ‹_›, hc.le]) hgq.le)
    (by
      intro st t r hgood hcp hrich ht hr
      have hok : VOK V st.b := ⟨hgood.1.nonneg, h.mult⟩
      show r ≤ (if t ∈ T then I.cost t else I.cost c) / ((gsize V G : Nat) : Rat)
      rw [← mul_one ((gsize V G : Nat) : Rat)]
      split
      · exact price_le_own_cost hok hcp hc G hnd hvs 1 one_pos (fun i hi => huT i hi c hcT) hg hrich ht hr
          (hgood.1.pool_pos t (tied_sub_pool ht)) (fun i hi => huT i hi t ‹_›)
      · exact price_bounded_while_rich hok hcp hc G hnd hvs 1 one_pos (fun i hi => huT i hi c hcT) hg hrich
          ht hr)
  simp only [div_mul_eq_mul_div, sumOver_div] at hlt
  refine ⟨j, hj, ?_⟩
  rw [← mul_one (T.length : Rat), ← sumOver_const, ← sumOver_congr fun p hp => huT j hj p hp]
  exact card_count hTnd hWnd hc hcmin (a j) (hu j hj) (hT j hj) hcoh (scale_lt hgq hlt)

end MesEJR
end Pabu
