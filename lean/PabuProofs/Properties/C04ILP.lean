/-
  C04 (ILP path) and C15 (MIP helper) — the ENCODING and the enumeration LOOP of
  `max_additive_utilitarian_welfare_ilp_scheme`, `max_budget_allocation_cost` and the normaliser of
  `Additive_Cardinal_Relative_Sat` are correct for every instance, under one hypothesis about the solver:

      `SolverSpec solve`:  an answer `some a` is a feasible point of the program it was given with the largest
      objective value among all feasible points, and `none` is given only for an infeasible program.

  (`OracleSpec ask` = every call satisfies `SolverSpec`; the k-th `optimize()` call may answer differently.)

  Modelled, not verified (runtime points, see DESIGN §5 C04): the code re-imposes the solver's FLOAT
  `objective_value` (`== opt_value`) and hands the solver double-precision coefficients; the model is exact.
-/
import PabuProofs.Lemmas.WelfareILP
namespace Pabu
namespace WelfareILP
open Election

/-- Under `SolverSpec`, for a duplicate-free instance and a feasible initial allocation, the resolute ILP call returns
    an allocation `W` (the variables at one, then the initial allocation) that is feasible, whose welfare is the
    brute-force optimum, and that is — up to the order of its elements — a member of `allOptima`. -/
theorem ilp_resolute_optimal (solve : Program → Option Assignment) (hs : SolverSpec solve) (I : Inst)
    (score : Pid → Rat) (init : List Pid) (hnd : I.projects.Nodup) (hinit : I.isFeasible init = true) :
    ∃ W, resolute solve I score init = .ok W ∧ I.isFeasible W = true ∧
      sumOver W score = MaxWelfare.optValue I score init ∧
      ∃ o ∈ MaxWelfare.allOptima I score init, o.Perm W := by
  obtain ⟨a, ha, hfa, hval, hmem⟩ := base_solve_spec hs I score init hnd hinit
  have hres : resolute solve I score init = .ok (partialAlloc (freeVars I init) a ++ init) := by
    unfold resolute
    by_cases hemp : (freeVars I init).isEmpty = true
    · rw [if_pos hemp, List.isEmpty_iff.1 hemp]; rfl
    · rw [if_neg hemp, ha]
  refine ⟨partialAlloc (freeVars I init) a ++ init, hres, ?_, ?_, ?_⟩
  · rwa [I.isFeasible_perm List.perm_append_comm]
  · rw [hval, sumOver_append]
    unfold baseProgram
    rw [knap_objective]
    ring
  · refine ⟨init ++ partialAlloc (freeVars I init) a, ?_, List.perm_append_comm⟩
    rw [allOptima_eq_map]
    exact List.mem_map.2 ⟨_, hmem, rfl⟩

/-! ### the integer cuts -/

/-- For a duplicate-free variable list and a sub-list `S` of it: an assignment satisfies BOTH cuts added for `S`
    iff the list of its variables at one is not `S`. -/
theorem cuts_exclude_exactly (vars S : List Pid) (hv : vars.Nodup) (hS : S.Sublist vars) (a : Assignment) :
    ((cut1 vars S).sat a = true ∧ (cut2 vars S).sat a = true) ↔ partialAlloc vars a ≠ S := by
  have h := cuts_sat_iff_filter a (indicator S) vars
  rw [filter_indicator hS hv] at h
  exact h

theorem cuts_exclude_exactly_set (vars S : List Pid) (hS : ∀ p ∈ S, p ∈ vars) (a : Assignment) :
    ((cut1 vars S).sat a = true ∧ (cut2 vars S).sat a = true) ↔ ¬ (∀ p ∈ vars, (a p = true ↔ p ∈ S)) :=
  cuts_sat_iff_set a vars S hS

/-- The second cut is redundant: it is satisfied by exactly the assignments that satisfy the first. -/
theorem second_cut_redundant (vars S : List Pid) (a : Assignment) : (cut2 vars S).sat a = (cut1 vars S).sat a :=
  cut2_sat_eq_cut1 a vars S

theorem first_cut_excludes_exactly (vars S : List Pid) (hv : vars.Nodup) (hS : S.Sublist vars) (a : Assignment) :
    (cut1 vars S).sat a = true ↔ partialAlloc vars a ≠ S := by
  rw [← cuts_exclude_exactly vars S hv hS a, second_cut_redundant, and_self]

/-! ### irresolute call -/

/-- Under `OracleSpec`, for a duplicate-free instance and a feasible initial allocation, the irresolute ILP call
    * terminates: the fuel `2^n` (n = number of projects outside the initial allocation) is never exhausted, and the
      solver is called exactly `(number of optima) + 1 ≤ 2^n + 1` times (not at all when n = 0);
    * returns `L.map (· ++ init)` where `L` (the partial allocations in discovery order) has no duplicates, no two of
      its members have the same set of projects, and `L.map (init ++ ·)` is a permutation of `allOptima`:
      every welfare-maximal feasible allocation extending `init` is returned exactly once. -/
theorem ilp_irresolute_all_optima (ask : Oracle) (hask : OracleSpec ask) (I : Inst) (score : Pid → Rat)
    (init : List Pid) (hnd : I.projects.Nodup) (hinit : I.isFeasible init = true) :
    ∃ L : List (List Pid),
      (irresoluteRun ask I score init).result = .ok L ∧
      irresolute ask I score init = .ok (L.map (fun s => s ++ init)) ∧
      L.Nodup ∧
      L.Pairwise (fun s t => ¬ (s ++ init).Perm (t ++ init)) ∧
      (L.map (fun s => init ++ s)).Perm (MaxWelfare.allOptima I score init) ∧
      (irresoluteRun ask I score init).programs.length =
        (if (freeVars I init).isEmpty then 0 else (MaxWelfare.allOptima I score init).length + 1) ∧
      (irresoluteRun ask I score init).programs.length ≤ 2 ^ (freeVars I init).length + 1 := by
  obtain ⟨L, hL1, hL2, hL3⟩ := irresoluteRunFuel_spec ask hask I score init hnd hinit
    (2 ^ (freeVars I init).length) (optSupports_length_le I score init)
  have hLnd : L.Nodup := hL2.nodup_iff.2 (optSupports_nodup I score init hnd)
  have hv := freeVars_nodup I init hnd
  refine ⟨L, hL1, ?_, hLnd, ?_, ?_, ?_, ?_⟩
  · unfold irresolute
    have : (irresoluteRun ask I score init).result = .ok L := hL1
    rw [this]
    rfl
  · apply hLnd.imp_of_mem
    intro s t hs ht hne hperm
    apply hne
    have hs' := optSupports_sublist I score init s (hL2.mem_iff.1 hs)
    have ht' := optSupports_sublist I score init t (hL2.mem_iff.1 ht)
    exact sublist_eq_of_perm hv hs' ht' ((List.perm_append_right_iff init).1 hperm)
  · rw [allOptima_eq_map]
    exact hL2.map _
  · rw [allOptima_eq_map, List.length_map]
    exact hL3
  · have h1 : (irresoluteRun ask I score init).programs.length = expectedCalls I score init := hL3
    rw [h1]
    have := optSupports_length_le I score init
    unfold expectedCalls
    split <;> omega

theorem ilp_irresolute_all_optima_fixed (solve : Program → Option Assignment) (hs : SolverSpec solve) (I : Inst)
    (score : Pid → Rat) (init : List Pid) (hnd : I.projects.Nodup) (hinit : I.isFeasible init = true) :
    ∃ L : List (List Pid),
      irresolute (fun _ => solve) I score init = .ok (L.map (fun s => s ++ init)) ∧ L.Nodup ∧
      (L.map (fun s => init ++ s)).Perm (MaxWelfare.allOptima I score init) := by
  obtain ⟨L, _, h2, h3, _, h5, _⟩ := ilp_irresolute_all_optima (fun _ => solve) (fun _ => hs) I score init hnd hinit
  exact ⟨L, h2, h3, h5⟩

/-- What the membership test `if previous_partial_alloc not in all_partial_allocs` does: under the invariant of the
    loop and `SolverSpec`, the support of every answer to a program with the cuts is NOT yet in the list, so the
    test always succeeds and the new allocation is appended.  (The test compares lists; both sides are filters of
    `p_vars`, so list equality is set equality.  Without the hypothesis — a solver returning an excluded point — the
    test skips the duplicate but the loop then adds the same cuts again and does not make progress.) -/
theorem pushNew_never_skips {solve : Program → Option Assignment} (hs : SolverSpec solve) {vars : List Pid}
    {Opt : List (List Pid)} {P : Program} {prev : List Pid} {all : List (List Pid)}
    (inv : LoopInv vars Opt P prev all) (a : Assignment) (ha : solve (P.addCuts prev) = some a) :
    pushNew all (partialAlloc P.vars a) = all ++ [partialAlloc P.vars a] := by
  rw [inv.hvars]
  exact pushNew_of_not_mem _ _ ((inv.addCuts_feasible a).mp ((hs (P.addCuts prev)).1 a ha).1).2

/-! ### the solver is only trusted on programs that have variables

  python-mip refuses a model without variables ("Model has no variables. Nothing to optimize.", status OTHER, `x = None`)
  although the empty assignment is a feasible, optimal point of it: the bundled solver does NOT satisfy `SolverSpec` on
  variable-free programs.  Since the code returns the initial allocation without calling the solver when no project is
  left to decide (fix c7ce4cf, D46), the theorems above hold under the weaker `SolverSpecNE` / `OracleSpecNE`, which say
  nothing about such programs. -/

theorem ilp_resolute_optimal_NE (solve : Program → Option Assignment) (hs : SolverSpecNE solve) (I : Inst)
    (score : Pid → Rat) (init : List Pid) (hnd : I.projects.Nodup) (hinit : I.isFeasible init = true) :
    ∃ W, resolute solve I score init = .ok W ∧ I.isFeasible W = true ∧
      sumOver W score = MaxWelfare.optValue I score init ∧
      ∃ o ∈ MaxWelfare.allOptima I score init, o.Perm W := by
  rw [← resolute_patch]
  exact ilp_resolute_optimal (patch solve) (patch_spec hs) I score init hnd hinit

theorem ilp_irresolute_all_optima_NE (ask : Oracle) (hask : OracleSpecNE ask) (I : Inst) (score : Pid → Rat)
    (init : List Pid) (hnd : I.projects.Nodup) (hinit : I.isFeasible init = true) :
    ∃ L : List (List Pid),
      (irresoluteRun ask I score init).result = .ok L ∧
      irresolute ask I score init = .ok (L.map (fun s => s ++ init)) ∧
      L.Nodup ∧
      L.Pairwise (fun s t => ¬ (s ++ init).Perm (t ++ init)) ∧
      (L.map (fun s => init ++ s)).Perm (MaxWelfare.allOptima I score init) ∧
      (irresoluteRun ask I score init).programs.length =
        (if (freeVars I init).isEmpty then 0 else (MaxWelfare.allOptima I score init).length + 1) ∧
      (irresoluteRun ask I score init).programs.length ≤ 2 ^ (freeVars I init).length + 1 := by
  have h := ilp_irresolute_all_optima (fun k => patch (ask k)) (fun k => patch_spec (hask k)) I score init hnd hinit
  have e : irresoluteRun (fun k => patch (ask k)) I score init = irresoluteRun ask I score init :=
    irresoluteRunFuel_patch ask I score init _
  unfold irresolute at h ⊢
  rw [e] at h
  exact h

/-- no project left to decide: both calls return the initial allocation WHATEVER the solver does — it is not called -/
theorem ilp_no_free_project (solve : Program → Option Assignment) (ask : Oracle) (I : Inst) (score : Pid → Rat)
    (init : List Pid) (hfree : freeVars I init = []) :
    resolute solve I score init = .ok init ∧ irresolute ask I score init = .ok [init] ∧
      (irresoluteRun ask I score init).programs = [] := by
  have hemp : (freeVars I init).isEmpty = true := List.isEmpty_iff.2 hfree
  refine ⟨?_, ?_, ?_⟩
  · unfold resolute; rw [if_pos hemp]
  · unfold irresolute irresoluteRun irresoluteRunFuel; rw [if_pos hemp]; rfl
  · unfold irresoluteRun irresoluteRunFuel; rw [if_pos hemp]

/-! ### the helpers of `pabutools/election/instance.py` and the normaliser of `Additive_Cardinal_Relative_Sat` -/

/-- `max_budget_allocation_cost(projects, budget)` returns the brute-force maximum `maxCostSpec` of C15 -/
theorem maxCostILP_eq (solve : Program → Option Assignment) (hs : SolverSpec solve) (cost : Pid → Rat)
    (l : List Pid) (hl : l.Nodup) (budget : Rat) (hb : 0 ≤ budget) :
    maxCostILP solve cost l budget = .ok (maxCostSpec cost l budget) := by
  rw [maxCostSpec_eq_maxScoreSpec]
  exact knapILP_eq hs cost cost hl budget hb

/-- the same program with an arbitrary objective (the normaliser of `Additive_Cardinal_Relative_Sat`: objective =
    the ballot's scores) returns `maxScoreSpec` -/
theorem maxScoreILP_eq (solve : Program → Option Assignment) (hs : SolverSpec solve) (cost score : Pid → Rat)
    (l : List Pid) (hl : l.Nodup) (budget : Rat) (hb : 0 ≤ budget) :
    knapILP solve cost score l budget = .ok (maxScoreSpec cost score l budget) :=
  knapILP_eq hs cost score hl budget hb

/-- objective "number of projects": the ILP optimum is the cheapest-first count `maxCardinality` that
    `max_budget_allocation_cardinality` computes (non-negative costs) -/
theorem maxCountILP_eq (solve : Program → Option Assignment) (hs : SolverSpec solve) (cost : Pid → Rat)
    (l : List Pid) (hl : l.Nodup) (budget : Rat) (hb : 0 ≤ budget) (hnn : ∀ p ∈ l, 0 ≤ cost p) :
    maxCountILP solve cost l budget = .ok ((maxCardinality cost l budget : Nat) : Rat) := by
  rw [← maxScoreSpec_one cost l budget hnn hb]
  exact knapILP_eq hs cost (fun _ => 1) hl budget hb

/-! ### non-vacuity -/

/-- the oracle hypothesis is satisfiable: exhaustive search over the assignments of the mentioned variables -/
theorem bruteSolve_satisfies_spec : SolverSpec bruteSolve ∧ OracleSpec (fun _ => bruteSolve) :=
  ⟨bruteSolve_spec, fun _ => bruteSolve_spec⟩

/-- six projects, fractional costs, a non-empty initial allocation: four welfare-maximal allocations -/
def exInst : Inst :=
  { projects := [0, 1, 2, 3, 4, 5],
    cost := fun p => if p = 2 then 2 else if p = 3 then 1 / 2 else if p = 4 then 1 / 2 else 1,
    budget := 3 }

def exScore : Pid → Rat := fun p => if p = 2 then 4 else if p = 3 then 1 else if p = 4 then 1 else if p = 5 then 7 / 3 else 2

example : exInst.projects.Nodup := by decide
example : exInst.isFeasible [5] = true := by decide +kernel

/-- the model, run with the brute-force solver: the four optima in discovery order -/
example : irresolute (fun _ => bruteSolve) exInst exScore [5]
    = .ok [[2, 5], [1, 3, 4, 5], [0, 3, 4, 5], [0, 1, 5]] := by decide +kernel

theorem exInst_allOptima :
    MaxWelfare.allOptima exInst exScore [5] = [[5, 2], [5, 1, 3, 4], [5, 0, 3, 4], [5, 0, 1]] := by
  decide +kernel

/-- five programs were posed (four optima + the final infeasible one) -/
example : (irresoluteRun (fun _ => bruteSolve) exInst exScore [5]).programs.length = 5 := by
  obtain ⟨_, _, _, _, _, _, h, _⟩ := ilp_irresolute_all_optima _ bruteSolve_satisfies_spec.2 exInst exScore [5]
    (by decide) (by decide +kernel)
  rw [h, exInst_allOptima]
  rfl

example : MaxWelfare.allOptima exInst exScore [5] = [[5, 2], [5, 1, 3, 4], [5, 0, 3, 4], [5, 0, 1]] :=
  exInst_allOptima

example : resolute bruteSolve exInst exScore [5] = .ok [2, 5] := by decide +kernel

/-- the helpers on 1/3 + 1/3 under budget 2/3 (exactly 2/3) -/
example : maxCostILP bruteSolve (fun _ => 1 / 3) [0, 1, 2] (2 / 3) = .ok (2 / 3) := by decide +kernel
example : maxCountILP bruteSolve (fun _ => 1 / 3) [0, 1, 2] (2 / 3) = .ok 2 := by decide +kernel

/-- the cuts for S = [0, 2] over the variables [0, 1, 2]: satisfied by the support [0], violated by [0, 2] -/
example : (cut1 [0, 1, 2] [0, 2]).sat (indicator [0]) = true ∧ (cut1 [0, 1, 2] [0, 2]).sat (indicator [0, 2]) = false ∧
    (cut2 [0, 1, 2] [0, 2]).sat (indicator [0]) = true ∧ (cut2 [0, 1, 2] [0, 2]).sat (indicator [0, 2]) = false := by
  decide +kernel

end WelfareILP
end Pabu
