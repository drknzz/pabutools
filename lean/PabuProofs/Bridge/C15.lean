/-
  Bridge C15 — the regenerated leaf formulas of the instance predicates (Gen/C15.lean, produced from the
  current source of pabutools/election/instance.py on every run) are the formulas of the model
  (PabuModel/Election.lean): feasibility, triviality (all projects fit, or no single project fits),
  the per-project test of exhaustiveness and one step of the cheapest-first count.
-/
import Gen.C15
import PabuProofs.Lemmas.Election
import Mathlib.Tactic.Ring
import Mathlib.Tactic.NormNum
namespace Pabu.Bridge.C15

/-- `is_feasible`: `total_cost(projects) <= self.budget_limit` -/
theorem isFeasible (I : Inst) (l : List Pid) :
    I.isFeasible l = Gen.C15.isFeasible (I.totalCost l) I.budget := rfl

theorem all_of_minRat_some {l : List Rat} {c : Rat} (h : minRat l = some c) (b : Rat) :
    l.all (fun x => decide (b < x)) = decide (b < c) :=
  all_lt_of_minRat_some h b

/-- the second disjunct of the model's `isTrivial` (budget below the minimum cost; vacuous without projects)
    is `all(self.budget_limit < p.cost for p in self)` -/
theorem singleDoesNotFit (I : Inst) :
    I.isTrivial =
      (decide (I.totalCost I.projects ≤ I.budget) ||
        I.projects.all (fun p => Gen.C15.singleDoesNotFit I.budget (I.cost p))) :=
  I.isTrivial_eq

/-- `is_trivial`: `total_cost(self) <= budget_limit or all(budget_limit < p.cost for p in self)` -/
theorem isTrivial (I : Inst) :
    I.isTrivial =
      Gen.C15.isTrivial (I.totalCost I.projects) I.budget
        (I.projects.all (fun p => Gen.C15.singleDoesNotFit I.budget (I.cost p))) := by
  rw [singleDoesNotFit]
  rfl

/-- `is_exhaustive`: no available project passes `p not in projects and p.cost + cost <= budget_limit` -/
theorem fitsOnTop (I : Inst) (avail l : List Pid) :
    I.isExhaustiveOver avail l =
      avail.all (fun p => !Gen.C15.fitsOnTop (l.contains p) (I.cost p) (I.totalCost l) I.budget) := by
  unfold Inst.isExhaustiveOver Gen.C15.fitsOnTop
  congr 1
  funext p
  cases l.contains p <;> simp

/-- one iteration of the loop of `max_budget_allocation_cardinality` -/
theorem cheapest_step (budget acc c : Rat) (cs : List Rat) :
    cheapestCount budget acc (c :: cs) =
      if Gen.C15.cheapestOvershoots c acc budget = true then 0
      else cheapestCount budget (Gen.C15.cheapestNewTotal c acc) cs + 1 := by
  unfold Gen.C15.cheapestOvershoots Gen.C15.cheapestNewTotal
  rw [cheapestCount]
  simp only [decide_eq_true_eq]
  rw [add_comm acc c]

/-! ### whole functions (statement-level leaves): initialisation, loop, return -/

/-- the whole of `Instance.is_exhaustive`: `cost = total_cost(projects)`, the loop over the available projects with its early
    `return False`, the final `return True` — nothing else happens in the function -/
theorem isExhaustiveFn (I : Inst) (avail l : List Pid) :
    I.isExhaustiveOver avail l =
      Gen.C15.isExhaustiveFn (I.totalCost l) I.budget (avail.map (fun p => (l.contains p, I.cost p))) := by
  unfold Gen.C15.isExhaustiveFn Inst.isExhaustiveOver
  induction avail with
  | nil => simp [Gen.C15.isExhaustiveFnLoop]
  | cons p ps ih =>
    simp only [List.map_cons, List.all_cons, Gen.C15.isExhaustiveFnLoop]
    by_cases hc : l.contains p = true
    · simp only [hc, Bool.not_true, Bool.false_and, Bool.true_or, Bool.true_and]
      exact ih
    · have hc' : l.contains p = false := by simpa using hc
      have hm : p ∉ l := by simpa using hc'
      by_cases hf : I.cost p + I.totalCost l ≤ I.budget
      · simp [hm, hf]
      · simp only [hc', hf, Bool.not_false, Bool.true_and, decide_false, Bool.false_or, Bool.not_false]
        exact ih

private theorem maxCardLoop_snd (budget : Rat) : ∀ (cs : List Rat) (acc sel : Rat),
    (Gen.C15.maxCardFnLoop budget acc sel cs).2 = sel + (cheapestCount budget acc cs : Rat)
  | [], acc, sel => by simp [Gen.C15.maxCardFnLoop, cheapestCount]
  | c :: cs, acc, sel => by
    rw [Gen.C15.maxCardFnLoop, cheapestCount]
    by_cases h : acc + c > budget
    · have h' : c + acc > budget := by rwa [add_comm]
      simp [h, h']
    · have h' : ¬ c + acc > budget := by rwa [add_comm]
      simp only [h, h', decide_false, if_false, Bool.false_eq_true]
      rw [maxCardLoop_snd budget cs (c + acc) (sel + 1), add_comm c acc]
      push_cast
      ring

/-- the whole of `max_budget_allocation_cardinality` after the sort: both counters start at 0, the loop stops at the first
    project that does not fit, the number of projects passed is returned -/
theorem maxCardFn (cost : Pid → Rat) (l : List Pid) (budget : Rat) :
    (maxCardinality cost l budget : Rat) = Gen.C15.maxCardFn budget (sortKey id (l.map cost)) := by
  unfold maxCardinality Gen.C15.maxCardFn
  beta_reduce
  rw [maxCardLoop_snd]
  simp

/-- the statement-level leaves on a concrete instance: budget 4, costs 1, 2, 3 — {1, 2} is exhaustive, {1} is not, two projects fit -/
example : Gen.C15.isExhaustiveFn 3 4 [(true, 1), (true, 2), (false, 3)] = true ∧
    Gen.C15.isExhaustiveFn 1 4 [(true, 1), (false, 2), (false, 3)] = false ∧ Gen.C15.maxCardFn 4 [1, 2, 3] = 2 := by
  refine ⟨?_, ?_, ?_⟩ <;> norm_num [Gen.C15.isExhaustiveFn, Gen.C15.isExhaustiveFnLoop, Gen.C15.maxCardFn, Gen.C15.maxCardFnLoop]

/-- a concrete non-trivial instance: budget 2, costs 1 and 3 -/
example :
    Gen.C15.isTrivial (1 + 3) 2 ([1, 3].all (fun c => Gen.C15.singleDoesNotFit 2 c)) = false := by
  norm_num [Gen.C15.isTrivial, Gen.C15.singleDoesNotFit]

end Pabu.Bridge.C15
