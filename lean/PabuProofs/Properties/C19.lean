/-
  C19 — rule comparison returns exactly the best outcomes among the compared rules.

  Model: `Composition.welfareCmp` (`social_welfare_comparison`), `Composition.popularityCmp`
  (`popularity_comparison`), over ARBITRARY satisfaction functions.

  * `welfareCmp_spec`: the result is exactly the set of input outcomes of maximal total satisfaction;
    `welfareCmp_nodup`, `welfareCmp_ne_nil`, `welfareCmp_subset`.
  * `popularityCmp_spec`: exactly the input outcomes of maximal support, where (`support_eq`,
    `mem_favourites_iff`) the support of `r` is the number of voters, with multiplicity, for whom `r`
    attains their maximal satisfaction among the distinct outcomes (indifferent voters support all their
    top outcomes); `popularityCmp_nodup`, `popularityCmp_ne_nil`, `popularityCmp_subset`.
  * robustness: duplicates and the order of the compared outcomes do not matter
    (`welfareCmp_distinct`, `popularityCmp_distinct`, `welfareCmp_perm`, `popularityCmp_perm`, and the
    common generalisation `welfareCmp_congr` / `popularityCmp_congr`).
-/
import PabuProofs.Lemmas.Wrappers

namespace Pabu
namespace C19
open Composition Wrap

theorem mem_distinct {rs : List (List Pid)} {r : List Pid} : r ∈ distinct rs ↔ r ∈ rs := mem_dedup_iff

theorem distinct_nodup (rs : List (List Pid)) : (distinct rs).Nodup := dedup_nodup rs

theorem distinct_idem (rs : List (List Pid)) : distinct (distinct rs) = distinct rs := dedup_idem rs

/-! ### favourites / argmax -/

/-- Both comparisons keep the members whose score equals a number `mx` that bounds all scores and is
    attained: these are the members whose score no other member exceeds. -/
theorem eq_max_iff {α β : Type} [PartialOrder β] {l : List α} {f : α → β} {mx : β}
    (hle : ∀ x ∈ l, f x ≤ mx) (hatt : ∃ x ∈ l, f x = mx) {r : α} (hr : r ∈ l) :
    f r = mx ↔ ∀ r' ∈ l, f r' ≤ f r := by
  constructor
  · intro he r' hr'
    rw [he]
    exact hle r' hr'
  · intro h
    obtain ⟨x, hx, rfl⟩ := hatt
    exact le_antisymm (hle r hr) (h x hx)

theorem mem_favourites_iff (s : List Pid → Rat) (rs : List (List Pid)) (r : List Pid) :
    r ∈ favourites s rs ↔ r ∈ rs ∧ ∀ r' ∈ rs, s r' ≤ s r := by
  unfold favourites
  cases hm : maxRat (rs.map s) with
  | none =>
    cases List.map_eq_nil_iff.mp (maxRat_eq_none.mp hm)
    exact ⟨fun h => absurd h List.not_mem_nil, fun h => absurd h.1 List.not_mem_nil⟩
  | some mx =>
    obtain ⟨hmem, hle⟩ := maxRat_some hm
    obtain ⟨r0, hr0, he⟩ := List.mem_map.mp hmem
    rw [List.mem_filter, decide_eq_true_eq]
    exact and_congr_right fun hr =>
      eq_max_iff (fun x hx => hle _ (List.mem_map_of_mem hx)) ⟨r0, hr0, he⟩ hr

theorem favourites_ne_nil (s : List Pid → Rat) {rs : List (List Pid)} (h : rs ≠ []) : favourites s rs ≠ [] := by
  obtain ⟨mx, hm⟩ := maxRat_isSome (l := rs.map s) fun e => h (List.map_eq_nil_iff.mp e)
  obtain ⟨hmem, hle⟩ := maxRat_some hm
  obtain ⟨r0, hr0, rfl⟩ := List.mem_map.mp hmem
  exact List.ne_nil_of_mem
    ((mem_favourites_iff s rs r0).mpr ⟨hr0, fun r' hr' => hle _ (List.mem_map_of_mem hr')⟩)

theorem favourites_nodup (s : List Pid → Rat) {rs : List (List Pid)} (h : rs.Nodup) : (favourites s rs).Nodup := by
  unfold favourites
  cases maxRat (rs.map s) with
  | none => exact List.nodup_nil
  | some mx => exact h.filter _

/-! ### Social-welfare comparison -/

theorem welfareCmp_eq_favourites (tsat : List Pid → Rat) (rs : List (List Pid)) :
    welfareCmp tsat rs = favourites tsat (distinct rs) := rfl

theorem welfareCmp_spec (tsat : List Pid → Rat) (rs : List (List Pid)) (r : List Pid) :
    r ∈ welfareCmp tsat rs ↔ r ∈ rs ∧ ∀ r' ∈ rs, tsat r' ≤ tsat r := by
  simp only [welfareCmp_eq_favourites, mem_favourites_iff, mem_distinct]

theorem welfareCmp_nodup (tsat : List Pid → Rat) (rs : List (List Pid)) : (welfareCmp tsat rs).Nodup :=
  favourites_nodup tsat (distinct_nodup rs)

theorem welfareCmp_ne_nil (tsat : List Pid → Rat) {rs : List (List Pid)} (h : rs ≠ []) :
    welfareCmp tsat rs ≠ [] :=
  favourites_ne_nil tsat (fun e => h (dedup_eq_nil.mp e))

theorem welfareCmp_subset (tsat : List Pid → Rat) (rs : List (List Pid)) :
    ∀ r ∈ welfareCmp tsat rs, r ∈ rs :=
  fun r hr => ((welfareCmp_spec tsat rs r).mp hr).1

/-! ### Popularity comparison -/

/-- the support of `r` is the number of voters (with multiplicity) for whom `r` is one of the outcomes in
    `rs` of maximal satisfaction; an indifferent voter supports all of her top outcomes -/
theorem support_eq (voters : List ((List Pid → Rat) × Nat)) (rs : List (List Pid)) (r : List Pid) :
    support voters rs r =
      sumNat voters (fun v => if r ∈ rs ∧ ∀ r' ∈ rs, v.1 r' ≤ v.1 r then v.2 else 0) := by
  unfold support
  simp only [List.contains_iff_mem, mem_favourites_iff]

theorem support_congr (voters : List ((List Pid → Rat) × Nat)) {rs rs' : List (List Pid)}
    (h : ∀ x, x ∈ rs ↔ x ∈ rs') (r : List Pid) : support voters rs r = support voters rs' r := by
  simp only [support_eq, h]

theorem popularityCmp_spec (voters : List ((List Pid → Rat) × Nat)) (rs : List (List Pid)) (r : List Pid) :
    r ∈ popularityCmp voters rs ↔
      r ∈ rs ∧ ∀ r' ∈ rs, support voters (distinct rs) r' ≤ support voters (distinct rs) r := by
  have key (hr : r ∈ distinct rs) :
      support voters (distinct rs) r = maxNat ((distinct rs).map (support voters (distinct rs))) ↔
        ∀ r' ∈ distinct rs, support voters (distinct rs) r' ≤ support voters (distinct rs) r :=
    eq_max_iff (fun x hx => maxNat_ge (List.mem_map_of_mem hx))
      (List.mem_map.mp (maxNat_mem fun e => List.ne_nil_of_mem hr (List.map_eq_nil_iff.mp e))) hr
  rw [popularityCmp, List.mem_filter, beq_iff_eq, and_congr_right key]
  simp only [mem_distinct]

theorem popularityCmp_nodup (voters : List ((List Pid → Rat) × Nat)) (rs : List (List Pid)) :
    (popularityCmp voters rs).Nodup :=
  (distinct_nodup rs).filter _

theorem popularityCmp_subset (voters : List ((List Pid → Rat) × Nat)) (rs : List (List Pid)) :
    ∀ r ∈ popularityCmp voters rs, r ∈ rs :=
  fun r hr => ((popularityCmp_spec voters rs r).mp hr).1

theorem popularityCmp_ne_nil (voters : List ((List Pid → Rat) × Nat)) {rs : List (List Pid)} (h : rs ≠ []) :
    popularityCmp voters rs ≠ [] := by
  have hne : (distinct rs).map (support voters (distinct rs)) ≠ [] := fun e =>
    h (dedup_eq_nil.mp (List.map_eq_nil_iff.mp e))
  obtain ⟨r0, hr0, he⟩ := List.mem_map.mp (maxNat_mem hne)
  refine List.ne_nil_of_mem ((popularityCmp_spec voters rs r0).mpr ⟨mem_distinct.mp hr0, fun r' hr' => ?_⟩)
  rw [he]
  exact maxNat_ge (List.mem_map_of_mem (mem_distinct.mpr hr'))

/-! ### Duplicates and order of the compared outcomes are irrelevant -/

theorem welfareCmp_distinct (tsat : List Pid → Rat) (rs : List (List Pid)) :
    welfareCmp tsat (distinct rs) = welfareCmp tsat rs := by
  unfold welfareCmp
  rw [distinct_idem]

theorem popularityCmp_distinct (voters : List ((List Pid → Rat) × Nat)) (rs : List (List Pid)) :
    popularityCmp voters (distinct rs) = popularityCmp voters rs := by
  unfold popularityCmp
  rw [distinct_idem]

theorem welfareCmp_congr (tsat : List Pid → Rat) {rs rs' : List (List Pid)} (h : ∀ x, x ∈ rs ↔ x ∈ rs') :
    (welfareCmp tsat rs).Perm (welfareCmp tsat rs') := by
  rw [List.perm_ext_iff_of_nodup (welfareCmp_nodup tsat rs) (welfareCmp_nodup tsat rs')]
  intro r
  simp only [welfareCmp_spec, h]

theorem welfareCmp_perm (tsat : List Pid → Rat) {rs rs' : List (List Pid)} (h : rs.Perm rs') :
    (welfareCmp tsat rs).Perm (welfareCmp tsat rs') :=
  welfareCmp_congr tsat (fun _ => h.mem_iff)

theorem popularityCmp_congr (voters : List ((List Pid → Rat) × Nat)) {rs rs' : List (List Pid)}
    (h : ∀ x, x ∈ rs ↔ x ∈ rs') :
    (popularityCmp voters rs).Perm (popularityCmp voters rs') := by
  rw [List.perm_ext_iff_of_nodup (popularityCmp_nodup voters rs) (popularityCmp_nodup voters rs')]
  have hd : ∀ x, x ∈ distinct rs ↔ x ∈ distinct rs' := fun x => by
    rw [mem_distinct, mem_distinct]; exact h x
  intro r
  simp only [popularityCmp_spec, h, support_congr voters hd]

theorem popularityCmp_perm (voters : List ((List Pid → Rat) × Nat)) {rs rs' : List (List Pid)}
    (h : rs.Perm rs') : (popularityCmp voters rs).Perm (popularityCmp voters rs') :=
  popularityCmp_congr voters (fun _ => h.mem_iff)

/-- when two compared rules return the same outcome it is returned once -/
theorem welfareCmp_count_le_one (tsat : List Pid → Rat) (rs : List (List Pid)) (r : List Pid) :
    (welfareCmp tsat rs).count r ≤ 1 :=
  List.nodup_iff_count_le_one.mp (welfareCmp_nodup tsat rs) r

/-! ### Non-vacuity: concrete comparisons with ties -/

/-- four rule outcomes, one duplicated; total satisfaction = number of projects: two distinct winners -/
example : welfareCmp (fun l => (l.length : Rat)) [[1, 2], [3], [1, 2], [2, 4]] = [[1, 2], [2, 4]] := by
  decide +kernel

example : [2, 4] ∈ welfareCmp (fun l => (l.length : Rat)) [[1, 2], [3], [1, 2], [2, 4]] :=
  (welfareCmp_spec _ _ _).mpr ⟨by decide, by decide +kernel⟩

/-- voters: 2 × "likes project 1", 1 × "likes project 3", 1 × indifferent.  Outcomes `[1,2]`, `[3]`, `[1,4]`:
    supports 3, 2, 3 — the indifferent voter supports all three, `[1,2]` and `[1,4]` tie. -/
def exVoters : List ((List Pid → Rat) × Nat) :=
  [(fun l => if l.contains 1 then 1 else 0, 2), (fun l => if l.contains 3 then 1 else 0, 1), (fun _ => 0, 1)]

example : (favourites (fun _ => 0) [[1, 2], [3], [1, 4]]) = [[1, 2], [3], [1, 4]] := by decide +kernel

example : [[1, 2], [3], [1, 4]].map (support exVoters [[1, 2], [3], [1, 4]]) = [3, 2, 3] := by decide +kernel

example : popularityCmp exVoters [[1, 2], [3], [1, 2], [1, 4]] = [[1, 2], [1, 4]] := by decide +kernel

/-- the order of the rules only changes the order of the result -/
example : popularityCmp exVoters [[1, 4], [3], [1, 2]] = [[1, 4], [1, 2]] := by decide +kernel

example : (popularityCmp exVoters [[1, 2], [3], [1, 2], [1, 4]]).Perm (popularityCmp exVoters [[1, 4], [3], [1, 2]]) :=
  popularityCmp_congr exVoters fun x => by
    simp only [List.mem_cons, List.not_mem_nil, or_false]
    constructor
    · rintro (rfl | rfl | rfl | rfl) <;> decide
    · rintro (rfl | rfl | rfl) <;> decide

end C19
end Pabu
