/-
  Bridge C06 — the regenerated leaf formulas about multiplicities (Gen/C06.lean, produced on every run from the
  current source of pabutools/election/profile/profile.py, profile/approvalprofile.py,
  satisfaction/satisfactionprofile.py and satisfaction/satisfactionmeasure.py) are the formulas of the model
  (PabuModel/Election.lean, PabuModel/Expand.lean): a list profile counts every ballot once, a multiprofile
  returns the stored count, the approval score adds the multiplicity of every ballot containing the project,
  and total satisfaction weights every voter's satisfaction with its multiplicity.
-/
import Gen.C06
import PabuModel.Expand
import PabuProofs.Properties.C06
import Mathlib.Tactic.NormNum
import Mathlib.Algebra.Order.Field.Rat
namespace Pabu.Bridge.C06
open Pabu

/-- `Profile.multiplicity` / `SatisfactionProfile.multiplicity` return 1: every entry of the list profile a
    multiprofile stands for has that multiplicity -/
theorem listMultiplicity (P : Profile) (e : Ballot × Nat) (he : e ∈ P.expand) :
    ((e.2 : Nat) : Rat) = Gen.C06.listMultiplicity ∧ ((e.2 : Nat) : Rat) = Gen.C06.satListMultiplicity := by
  have h := (Pabu.C06.expand_is_list P).1 e he
  unfold Gen.C06.listMultiplicity Gen.C06.satListMultiplicity
  rw [h]
  norm_num

/-- `MultiProfile.multiplicity` / `SatisfactionMultiProfile.multiplicity` return the stored count: the second
    component of the model's entry -/
theorem multiMultiplicity (e : Ballot × Nat) :
    Gen.C06.multiMultiplicity ((e.2 : Nat) : Rat) = ((e.2 : Nat) : Rat) ∧
    Gen.C06.satMultiMultiplicity ((e.2 : Nat) : Rat) = ((e.2 : Nat) : Rat) := ⟨rfl, rfl⟩

/-- `approval_score = 0` before the loop -/
theorem approvalScoreInit (p : Pid) :
    ((Profile.approvalScore [] p : Nat) : Rat) = Gen.C06.approvalScoreInit := by
  unfold Gen.C06.approvalScoreInit Profile.approvalScore sumNat
  norm_num

/-- one ballot of the loop of `approval_score`: `if project in ballot: approval_score += self.multiplicity(ballot)` -/
theorem approvalScoreUpdate (e : Ballot × Nat) (P : Profile) (p : Pid) :
    ((Profile.approvalScore (e :: P) p : Nat) : Rat) =
      if Gen.C06.approves (e.1.mem p) = true then
        Gen.C06.approvalScoreUpdate ((Profile.approvalScore P p : Nat) : Rat) (Gen.C06.multiMultiplicity ((e.2 : Nat) : Rat))
      else ((Profile.approvalScore P p : Nat) : Rat) := by
  show (((if e.1.mem p then e.2 else 0) + Profile.approvalScore P p : Nat) : Rat) =
    if e.1.mem p = true then ((Profile.approvalScore P p : Nat) : Rat) + ((e.2 : Nat) : Rat) else _
  split
  · rw [Nat.cast_add, add_comm]
  · rw [Nat.zero_add]

/-- `approval_score` as a WHOLE (`approval_score = 0`, the loop over the ballots, the `return`) is the model's
    approval score -/
theorem approvalScoreFn (P : Profile) (p : Pid) :
    ((Profile.approvalScore P p : Nat) : Rat) = Gen.C06.approvalScoreFn (P.map (fun e => (e.1.mem p, ((e.2 : Nat) : Rat)))) := by
  have key : ∀ (Q : Profile) (acc : Rat),
      Gen.C06.approvalScoreFnLoop acc (Q.map (fun e => (e.1.mem p, ((e.2 : Nat) : Rat)))) =
        acc + ((Profile.approvalScore Q p : Nat) : Rat) := by
    intro Q
    induction Q with
    | nil => intro acc; rw [List.map_nil, approvalScoreInit p]; exact (add_zero acc).symm
    | cons e Q ih =>
      intro acc
      rw [List.map_cons, Gen.C06.approvalScoreFnLoop, ih, ih, approvalScoreUpdate]
      show (if e.1.mem p = true then _ else _) = acc + if e.1.mem p = true then _ + _ else _
      split
      · rw [add_assoc, add_comm ((e.2 : Nat) : Rat)]
        rfl
      · rfl
  exact ((key P 0).trans (zero_add _)).symm

/-- `total_satisfaction`: `sum(sat.sat(projects) * self.multiplicity(sat) for sat in self)` -/
theorem totalSatSummand (μ : Measure) (I : Inst) (P : Profile) (l : List Pid) :
    totalSatOf μ I P l =
      sumOver P (fun e => Gen.C06.totalSatSummand (sat μ I P e.1 l) (Gen.C06.satMultiMultiplicity ((e.2 : Nat) : Rat))) :=
  sumOver_congr fun _ _ => mul_comm _ _

/-- `total_satisfaction_project`: `sum(sat.sat_project(project) * self.multiplicity(sat) for sat in self)` -/
theorem totalSatProjectSummand (μ : Measure) (I : Inst) (P : Profile) (p : Pid) :
    profitOf μ I P p =
      sumOver P (fun e => Gen.C06.totalSatProjectSummand (satProject μ I P e.1 p) (Gen.C06.satMultiMultiplicity ((e.2 : Nat) : Rat))) :=
  sumOver_congr fun _ _ => mul_comm _ _

theorem ofProfile_multiplicity (μ : Measure) (I : Inst) (P : Profile) (i : Nat) (h : i < P.length) :
    (((VCtx.ofProfile μ I P).m i : Nat) : Rat) = Gen.C06.multiMultiplicity (((P[i]).2 : Nat) : Rat) ∧
    (((Phragmen.Ctx.ofProfile I P).m i : Nat) : Rat) = Gen.C06.multiMultiplicity (((P[i]).2 : Nat) : Rat) := by
  unfold VCtx.ofProfile Phragmen.Ctx.ofProfile Gen.C06.multiMultiplicity
  simp [h]

example : Gen.C06.approvalScoreUpdate 2 3 = 5 ∧ Gen.C06.totalSatSummand 2 3 = 6 := by
  norm_num [Gen.C06.approvalScoreUpdate, Gen.C06.totalSatSummand]

end Pabu.Bridge.C06
