/-
  C09 — exhaustion wrappers stay feasible, extend their base rule and stop correctly.

  Models: `Exhaustion.budgetIncrease` / `budgetIncreaseAll` (`exhaustion_by_budget_increase`),
  `Exhaustion.completion` / `completionAll` (`completion_by_rule_combination`) over an ARBITRARY base rule,
  and `MES.iterated` / `MES.iteratedAll` (iterated Method of Equal Shares).

  * `budgetIncrease_result` (+ converse `budgetIncrease_complete`): the result is the rule's outcome at the
    first try whose outcome is feasible and (`exhaustive_stop` and) exhaustive, or else the outcome of the
    try before the first infeasible one / before the budget bound is exceeded.
  * `budgetIncrease_feasible`: the result is feasible for the original instance.
  * `budgetIncrease_terminates`, `budgetIncrease_no_fuel_error`, `budgetIncrease_terminates_pos_step`:
    with a positive step the loop ends; `budgetIncrease_nonpositive_step_diverges`: with `step ≤ 0`,
    `exhaustive_stop = False` and an always-feasible rule EVERY fuel runs out (the Python loop does not
    terminate there).
  * the same for `budgetIncreaseAll`, `MES.iterated`, `MES.iteratedAll`
    (unconditional termination of the iterated Equal Shares: `Properties/C09Termination.lean`).
  * completion: the result extends the initial allocation, stays feasible, is exhaustive when the last rule
    is; irresolute: no outcome of the first rule is dropped (`completionAll_keeps_all`).

  The generic loop lemmas are in `PabuProofs/Lemmas/Wrappers.lean`.
-/
import PabuProofs.Lemmas.Wrappers

namespace Pabu
namespace C09
open Exhaustion Wrap

/-! ### `exhaustion_by_budget_increase`, resolute -/

section resolute
variable {rule : Rat → Except Err (List Pid)} {feas exh : List Pid → Bool} {stop : Bool}
  {step bound : Rat}

theorem continues_budget {B : Rat} {r : Nat → List Pid} {j : Nat} :
    Continues (fun c => decide (bound < c)) (fun W => !feas W) (fun W => stop && exh W) step B r j ↔
      B + j * step ≤ bound ∧ feas (r j) = true ∧ ¬ (stop = true ∧ exh (r j) = true) := by
  simp only [Continues, decide_eq_false_iff_not, not_lt, Bool.not_eq_false', and_eq_false_iff_not]

theorem stopsAt_budget {B : Rat} {prev₀ W : List Pid} {r : Nat → List Pid} {k : Nat} :
    StopsAt (fun c => decide (bound < c)) (fun W => !feas W) (fun W => stop && exh W) step B prev₀ r k W ↔
      (B + k * step ≤ bound ∧ feas (r k) = true ∧ (stop = true ∧ exh (r k) = true) ∧ W = r k) ∨
      (B + k * step ≤ bound ∧ feas (r k) = false ∧ W = prevOutcome prev₀ r k) ∨
      (bound < B + k * step ∧ W = prevOutcome prev₀ r k) := by
  simp only [StopsAt, decide_eq_false_iff_not, decide_eq_true_eq, not_lt, Bool.not_eq_false',
    Bool.not_eq_true', Bool.and_eq_true]

/-- Characterisation of the result.  `r k` is the base rule's outcome at budget `B + k·step`
    (only needed for tries made: `k < fuel`, budget within the bound). -/
theorem budgetIncrease_result {fuel : Nat} {B : Rat} {prev₀ W : List Pid} {r : Nat → List Pid}
    (hr : ∀ k : Nat, k < fuel → B + k * step ≤ bound → rule (B + k * step) = .ok (r k))
    (h : budgetIncrease rule feas exh stop step bound fuel B prev₀ = .ok W) :
    ∃ k, k < fuel ∧
      (∀ j, j < k → B + j * step ≤ bound ∧ feas (r j) = true ∧ ¬ (stop = true ∧ exh (r j) = true)) ∧
      ((B + k * step ≤ bound ∧ feas (r k) = true ∧ (stop = true ∧ exh (r k) = true) ∧ W = r k) ∨
       (B + k * step ≤ bound ∧ feas (r k) = false ∧ W = prevOutcome prev₀ r k) ∨
       (bound < B + k * step ∧ W = prevOutcome prev₀ r k)) := by
  rw [budgetIncrease_eq_loop] at h
  obtain ⟨k, hk, hall, hstop⟩ := loop_result fuel B prev₀ W r
    (fun k hk ho => hr k hk (not_lt.mp (of_decide_eq_false ho))) h
  exact ⟨k, hk, fun j hj => continues_budget.mp (hall j hj), stopsAt_budget.mp hstop⟩

theorem budgetIncrease_complete {fuel k : Nat} {B : Rat} {prev₀ W : List Pid} {r : Nat → List Pid}
    (hr : ∀ j : Nat, j ≤ k → B + j * step ≤ bound → rule (B + j * step) = .ok (r j))
    (hk : k < fuel)
    (hall : ∀ j, j < k → B + j * step ≤ bound ∧ feas (r j) = true ∧ ¬ (stop = true ∧ exh (r j) = true))
    (hstop : (B + k * step ≤ bound ∧ feas (r k) = true ∧ (stop = true ∧ exh (r k) = true) ∧ W = r k) ∨
       (B + k * step ≤ bound ∧ feas (r k) = false ∧ W = prevOutcome prev₀ r k) ∨
       (bound < B + k * step ∧ W = prevOutcome prev₀ r k)) :
    budgetIncrease rule feas exh stop step bound fuel B prev₀ = .ok W := by
  rw [budgetIncrease_eq_loop]
  exact loop_complete k fuel B prev₀ W r (fun j hj ho => hr j hj (not_lt.mp (of_decide_eq_false ho))) hk
    (fun j hj => continues_budget.mpr (hall j hj)) (stopsAt_budget.mpr hstop)

/-- The result is feasible (w.r.t. the ORIGINAL instance) whenever the initial allocation is. -/
theorem budgetIncrease_feasible {fuel : Nat} {B : Rat} {prev₀ W : List Pid}
    (hprev : feas prev₀ = true)
    (h : budgetIncrease rule feas exh stop step bound fuel B prev₀ = .ok W) : feas W = true := by
  rw [budgetIncrease_eq_loop] at h
  exact loop_inv (fun W => feas W = true) (fun _ W _ hb => (Bool.not_eq_false' (feas W)).mp hb)
    fuel B prev₀ W hprev h

theorem budgetIncrease_inv (P : List Pid → Prop) {fuel : Nat} {B : Rat} {prev₀ W : List Pid}
    (hrule : ∀ c W, rule c = .ok W → feas W = true → P W) (hprev : P prev₀)
    (h : budgetIncrease rule feas exh stop step bound fuel B prev₀ = .ok W) : P W := by
  rw [budgetIncrease_eq_loop] at h
  exact loop_inv P (fun c W hr hb => hrule c W hr ((Bool.not_eq_false' (feas W)).mp hb)) fuel B prev₀ W hprev h

theorem budgetIncrease_terminates {fuel N : Nat} {B : Rat} {prev₀ : List Pid}
    (hrule : ∀ c, ∃ W, rule c = .ok W) (hN : bound < B + N * step) (hf : N < fuel) :
    ∃ W, budgetIncrease rule feas exh stop step bound fuel B prev₀ = .ok W := by
  rw [budgetIncrease_eq_loop]
  exact loop_stops N fuel B prev₀ (fun k => (hrule (B + k * step)).choose)
    (fun j _ _ => (hrule (B + j * step)).choose_spec) hf (Or.inl (decide_eq_true hN))

/-- An error of the wrapper is an error of the rule itself: the wrapper never runs out of fuel on its own. -/
theorem budgetIncrease_no_fuel_error {fuel N : Nat} {B : Rat} {prev₀ : List Pid}
    (hrule : ∀ c, rule c ≠ .error .fuel) (hN : bound < B + N * step) (hf : N < fuel) :
    budgetIncrease rule feas exh stop step bound fuel B prev₀ ≠ .error .fuel := by
  rw [budgetIncrease_eq_loop]
  intro h
  -- `by exact`: checked only after `h` has told which loop this is
  obtain ⟨k, _, hk⟩ := loop_error N fuel B prev₀ .fuel hf (by exact decide_eq_true hN) h
  exact hrule _ hk

/-- With a positive step such an `N` exists (`⌈(bound − B)/step⌉ + 1` will do). -/
theorem budgetIncrease_terminates_pos_step (hs : 0 < step) (hrule : ∀ c, ∃ W, rule c = .ok W)
    (B : Rat) (prev₀ : List Pid) :
    ∃ N : Nat, ∀ fuel, N < fuel → ∃ W, budgetIncrease rule feas exh stop step bound fuel B prev₀ = .ok W := by
  obtain ⟨N, hN⟩ := exists_steps_past_bound B bound step hs
  exact ⟨N, fun fuel hf => budgetIncrease_terminates hrule hN hf⟩

/-- FINDING (excluded from the property by `0 < step`): with a non-positive step, `exhaustive_stop = False`,
    a rule whose outcomes are always feasible and `B ≤ bound`, no amount of fuel suffices — the Python
    `while` loop never ends. -/
theorem budgetIncrease_nonpositive_step_diverges (hs : step ≤ 0) {B : Rat} (hB : B ≤ bound)
    (hrule : ∀ c, ∃ W, rule c = .ok W ∧ feas W = true) (fuel : Nat) (prev₀ : List Pid) :
    budgetIncrease rule feas exh false step bound fuel B prev₀ = .error .fuel := by
  rw [budgetIncrease_eq_loop]
  apply loop_diverges
  intro k
  obtain ⟨W, hW, hf⟩ := hrule (B + k * step)
  exact ⟨decide_eq_false (not_lt.mpr (steps_within_bound hs hB k)), W, hW, congrArg not hf, rfl⟩

end resolute

/-! ### `exhaustion_by_budget_increase`, irresolute -/

section irresolute
variable {rule : Rat → Except Err (List (List Pid))} {feas exh : List Pid → Bool} {stop : Bool}
  {step bound : Rat}

theorem continues_budgetAll {B : Rat} {r : Nat → List (List Pid)} {j : Nat} :
    Continues (fun c => decide (bound < c)) (fun Ws => Ws.any (fun W => !feas W))
        (fun Ws => stop && Ws.any exh) step B r j ↔
      B + j * step ≤ bound ∧ (∀ W ∈ r j, feas W = true) ∧ ¬ (stop = true ∧ ∃ W ∈ r j, exh W = true) := by
  simp only [Continues, decide_eq_false_iff_not, not_lt, any_not_eq_false, and_eq_false_iff_not,
    List.any_eq_true]

theorem stopsAt_budgetAll {B : Rat} {prev₀ Ws : List (List Pid)} {r : Nat → List (List Pid)} {k : Nat} :
    StopsAt (fun c => decide (bound < c)) (fun Ws => Ws.any (fun W => !feas W))
        (fun Ws => stop && Ws.any exh) step B prev₀ r k Ws ↔
      (B + k * step ≤ bound ∧ (∀ W ∈ r k, feas W = true) ∧ (stop = true ∧ ∃ W ∈ r k, exh W = true) ∧ Ws = r k) ∨
      (B + k * step ≤ bound ∧ (∃ W ∈ r k, feas W = false) ∧ Ws = prevOutcome prev₀ r k) ∨
      (bound < B + k * step ∧ Ws = prevOutcome prev₀ r k) := by
  simp only [StopsAt, decide_eq_false_iff_not, decide_eq_true_eq, not_lt, any_not_eq_false,
    List.any_eq_true, Bool.not_eq_true', Bool.and_eq_true]

theorem budgetIncreaseAll_result {fuel : Nat} {B : Rat} {prev₀ Ws : List (List Pid)} {r : Nat → List (List Pid)}
    (hr : ∀ k : Nat, k < fuel → B + k * step ≤ bound → rule (B + k * step) = .ok (r k))
    (h : budgetIncreaseAll rule feas exh stop step bound fuel B prev₀ = .ok Ws) :
    ∃ k, k < fuel ∧
      (∀ j, j < k → B + j * step ≤ bound ∧ (∀ W ∈ r j, feas W = true) ∧
        ¬ (stop = true ∧ ∃ W ∈ r j, exh W = true)) ∧
      ((B + k * step ≤ bound ∧ (∀ W ∈ r k, feas W = true) ∧ (stop = true ∧ ∃ W ∈ r k, exh W = true) ∧ Ws = r k) ∨
       (B + k * step ≤ bound ∧ (∃ W ∈ r k, feas W = false) ∧ Ws = prevOutcome prev₀ r k) ∨
       (bound < B + k * step ∧ Ws = prevOutcome prev₀ r k)) := by
  rw [budgetIncreaseAll_eq_loop] at h
  obtain ⟨k, hk, hall, hstop⟩ := loop_result fuel B prev₀ Ws r
    (fun k hk ho => hr k hk (not_lt.mp (of_decide_eq_false ho))) h
  exact ⟨k, hk, fun j hj => continues_budgetAll.mp (hall j hj), stopsAt_budgetAll.mp hstop⟩

theorem budgetIncreaseAll_complete {fuel k : Nat} {B : Rat} {prev₀ Ws : List (List Pid)} {r : Nat → List (List Pid)}
    (hr : ∀ j : Nat, j ≤ k → B + j * step ≤ bound → rule (B + j * step) = .ok (r j))
    (hk : k < fuel)
    (hall : ∀ j, j < k → B + j * step ≤ bound ∧ (∀ W ∈ r j, feas W = true) ∧
        ¬ (stop = true ∧ ∃ W ∈ r j, exh W = true))
    (hstop : (B + k * step ≤ bound ∧ (∀ W ∈ r k, feas W = true) ∧ (stop = true ∧ ∃ W ∈ r k, exh W = true) ∧ Ws = r k) ∨
       (B + k * step ≤ bound ∧ (∃ W ∈ r k, feas W = false) ∧ Ws = prevOutcome prev₀ r k) ∨
       (bound < B + k * step ∧ Ws = prevOutcome prev₀ r k)) :
    budgetIncreaseAll rule feas exh stop step bound fuel B prev₀ = .ok Ws := by
  rw [budgetIncreaseAll_eq_loop]
  exact loop_complete k fuel B prev₀ Ws r (fun j hj ho => hr j hj (not_lt.mp (of_decide_eq_false ho))) hk
    (fun j hj => continues_budgetAll.mpr (hall j hj)) (stopsAt_budgetAll.mpr hstop)

theorem budgetIncreaseAll_feasible {fuel : Nat} {B : Rat} {prev₀ Ws : List (List Pid)}
    (hprev : ∀ W ∈ prev₀, feas W = true)
    (h : budgetIncreaseAll rule feas exh stop step bound fuel B prev₀ = .ok Ws) : ∀ W ∈ Ws, feas W = true := by
  rw [budgetIncreaseAll_eq_loop] at h
  exact loop_inv (fun Ws => ∀ W ∈ Ws, feas W = true) (fun _ _ _ hb => any_not_eq_false.mp hb)
    fuel B prev₀ Ws hprev h

theorem budgetIncreaseAll_terminates {fuel N : Nat} {B : Rat} {prev₀ : List (List Pid)}
    (hrule : ∀ c, ∃ W, rule c = .ok W) (hN : bound < B + N * step) (hf : N < fuel) :
    ∃ Ws, budgetIncreaseAll rule feas exh stop step bound fuel B prev₀ = .ok Ws := by
  rw [budgetIncreaseAll_eq_loop]
  exact loop_stops N fuel B prev₀ (fun k => (hrule (B + k * step)).choose)
    (fun j _ _ => (hrule (B + j * step)).choose_spec) hf (Or.inl (decide_eq_true hN))

theorem budgetIncreaseAll_no_fuel_error {fuel N : Nat} {B : Rat} {prev₀ : List (List Pid)}
    (hrule : ∀ c, rule c ≠ .error .fuel) (hN : bound < B + N * step) (hf : N < fuel) :
    budgetIncreaseAll rule feas exh stop step bound fuel B prev₀ ≠ .error .fuel := by
  rw [budgetIncreaseAll_eq_loop]
  intro h
  -- `by exact`: checked only after `h` has told which loop this is
  obtain ⟨k, _, hk⟩ := loop_error N fuel B prev₀ .fuel hf (by exact decide_eq_true hN) h
  exact hrule _ hk

theorem budgetIncreaseAll_terminates_pos_step (hs : 0 < step) (hrule : ∀ c, ∃ W, rule c = .ok W)
    (B : Rat) (prev₀ : List (List Pid)) :
    ∃ N : Nat, ∀ fuel, N < fuel →
      ∃ Ws, budgetIncreaseAll rule feas exh stop step bound fuel B prev₀ = .ok Ws := by
  obtain ⟨N, hN⟩ := exists_steps_past_bound B bound step hs
  exact ⟨N, fun fuel hf => budgetIncreaseAll_terminates hrule hN hf⟩

theorem budgetIncreaseAll_nonpositive_step_diverges (hs : step ≤ 0) {B : Rat} (hB : B ≤ bound)
    (hrule : ∀ c, ∃ Ws, rule c = .ok Ws ∧ ∀ W ∈ Ws, feas W = true) (fuel : Nat) (prev₀ : List (List Pid)) :
    budgetIncreaseAll rule feas exh false step bound fuel B prev₀ = .error .fuel := by
  rw [budgetIncreaseAll_eq_loop]
  apply loop_diverges
  intro k
  obtain ⟨Ws, hW, hf⟩ := hrule (B + k * step)
  exact ⟨decide_eq_false (not_lt.mpr (steps_within_bound hs hB k)), Ws, hW, any_not_eq_false.mpr hf, rfl⟩

end irresolute

/-! ### `completion_by_rule_combination`, resolute -/

section completion
variable {exh : List Pid → Bool}

theorem completion_cons_ok {r : List Pid → Except Err (List Pid)}
    {rs : List (List Pid → Except Err (List Pid))} {init W : List Pid}
    (h : completion exh (r :: rs) init = .ok W) :
    ∃ W₁, r init = .ok W₁ ∧
      (exh W₁ = true ∧ W = W₁ ∨ exh W₁ = false ∧ completion exh rs W₁ = .ok W) := by
  rw [completion] at h
  cases hr : r init with
  | error e => rw [hr] at h; cases h
  | ok W₁ =>
    rw [hr] at h
    refine ⟨W₁, rfl, ?_⟩
    cases he : exh W₁ with
    | true => exact .inl ⟨rfl, (Except.ok.inj ((if_pos he).symm.trans h)).symm⟩
    | false => exact .inr ⟨rfl, (if_neg (ne_true_of_eq_false he)).symm.trans h⟩

theorem completion_inv (P : List Pid → Prop) :
    ∀ (rules : List (List Pid → Except Err (List Pid))) (init W : List Pid),
    (∀ r ∈ rules, ∀ cur W, P cur → r cur = .ok W → P W) → P init →
    completion exh rules init = .ok W → P W := by
  intro rules
  induction rules with
  | nil => intro init W _ hp h; exact Except.ok.inj h ▸ hp
  | cons r rs ih =>
    intro init W hrules hp h
    obtain ⟨W₁, h1, hW⟩ := completion_cons_ok h
    have hp' : P W₁ := hrules r List.mem_cons_self init W₁ hp h1
    rcases hW with ⟨_, rfl⟩ | ⟨_, h⟩
    · exact hp'
    · exact ih W₁ W (fun r' hr' => hrules r' (List.mem_cons_of_mem _ hr')) hp' h

theorem completion_extends {rules : List (List Pid → Except Err (List Pid))} {init W : List Pid}
    (hext : ∀ r ∈ rules, ∀ cur W, r cur = .ok W → ∀ x ∈ cur, x ∈ W)
    (h : completion exh rules init = .ok W) : ∀ x ∈ init, x ∈ W :=
  completion_inv (fun W => ∀ x ∈ init, x ∈ W) rules init W
    (fun r hr cur W' hp hW x hx => hext r hr cur W' hW x (hp x hx)) (fun _ hx => hx) h

theorem completion_feasible {feas : List Pid → Bool} {rules : List (List Pid → Except Err (List Pid))}
    {init W : List Pid}
    (hfeas : ∀ r ∈ rules, ∀ cur W, feas cur = true → r cur = .ok W → feas W = true)
    (hinit : feas init = true)
    (h : completion exh rules init = .ok W) : feas W = true :=
  completion_inv (fun W => feas W = true) rules init W hfeas hinit h

theorem completion_exhaustive :
    ∀ (rules : List (List Pid → Except Err (List Pid))) (hne : rules ≠ []) (init W : List Pid),
    (∀ cur W, rules.getLast hne cur = .ok W → exh W = true) →
    completion exh rules init = .ok W → exh W = true := by
  intro rules
  induction rules with
  | nil => intro hne; exact absurd rfl hne
  | cons r rs ih =>
    intro hne init W hlast h
    obtain ⟨W₁, h1, hW⟩ := completion_cons_ok h
    rcases hW with ⟨he, rfl⟩ | ⟨he, h⟩
    · exact he
    · cases rs with
      | nil => exact absurd (hlast init W₁ h1) (ne_true_of_eq_false he)
      | cons r' rs' => exact ih (List.cons_ne_nil r' rs') W₁ W hlast h

theorem completion_extends_first {r : List Pid → Except Err (List Pid)}
    {rs : List (List Pid → Except Err (List Pid))} {init W₁ W : List Pid}
    (hext : ∀ r' ∈ rs, ∀ cur W, r' cur = .ok W → ∀ x ∈ cur, x ∈ W)
    (h1 : r init = .ok W₁)
    (h : completion exh (r :: rs) init = .ok W) : ∀ x ∈ W₁, x ∈ W := by
  obtain ⟨W₁', h1', hW⟩ := completion_cons_ok h
  cases h1.symm.trans h1'
  rcases hW with ⟨_, rfl⟩ | ⟨_, h⟩
  · exact fun _ hx => hx
  · exact completion_extends hext h

theorem completion_first_exhaustive {r : List Pid → Except Err (List Pid)}
    {rs : List (List Pid → Except Err (List Pid))} {init W₁ : List Pid}
    (h1 : r init = .ok W₁) (he : exh W₁ = true) : completion exh (r :: rs) init = .ok W₁ := by
  rw [completion, h1]
  exact if_pos he

end completion

/-! ### `completion_by_rule_combination`, irresolute -/

section completionAll
variable {exh : List Pid → Bool}

abbrev AllRule := List Pid → Except Err (List (List Pid))

def Extends (rules : List AllRule) : Prop :=
  ∀ r ∈ rules, ∀ cur ws, r cur = .ok ws → ∀ W ∈ ws, ∀ x ∈ cur, x ∈ W

def NonEmpty (rules : List AllRule) : Prop :=
  ∀ r ∈ rules, ∀ cur ws, r cur = .ok ws → ws ≠ []

theorem completionAll_cons_ok {r : AllRule} {rs : List AllRule} {res allocs R : List (List Pid)}
    (h : completionAll exh (r :: rs) res allocs = .ok R) :
    ∃ outs, outcomesFrom r allocs = .ok outs ∧
      (outs.filter (fun w => !exh w) = [] ∧ R = addNew res (outs.filter exh) ∨
        outs.filter (fun w => !exh w) ≠ [] ∧
          completionAll exh rs (addNew res (outs.filter exh)) (outs.filter (fun w => !exh w)) = .ok R) := by
  rw [completionAll] at h
  cases ho : outcomesFrom r allocs with
  | error e => rw [ho] at h; cases h
  | ok outs =>
    rw [ho] at h
    refine ⟨outs, rfl, ?_⟩
    by_cases hd : outs.filter (fun w => !exh w) = []
    · exact .inl ⟨hd, (Except.ok.inj ((if_pos hd).symm.trans h)).symm⟩
    · exact .inr ⟨hd, (if_neg hd).symm.trans h⟩

theorem mem_filter_exh_or {outs : List (List Pid)} {w : List Pid} (hw : w ∈ outs) :
    w ∈ outs.filter exh ∨ w ∈ outs.filter (fun w => !exh w) := by
  cases he : exh w with
  | true => exact .inl (List.mem_filter.mpr ⟨hw, he⟩)
  | false => exact .inr (List.mem_filter.mpr ⟨hw, congrArg not he⟩)

theorem completionAll_step {r : AllRule} {rs : List AllRule}
    (hcov : ∀ res allocs R, completionAll exh rs res allocs = .ok R →
      ∀ a, a ∈ res ∨ a ∈ allocs → ∃ W ∈ R, ∀ x ∈ a, x ∈ W)
    {res allocs R : List (List Pid)} (h : completionAll exh (r :: rs) res allocs = .ok R) :
    (∀ a ∈ res, ∃ W ∈ R, ∀ x ∈ a, x ∈ W) ∧
    (∀ a ∈ allocs, ∃ ws, r a = .ok ws ∧ ∀ w ∈ ws, ∃ W ∈ R, ∀ x ∈ w, x ∈ W) := by
  obtain ⟨outs, ho, hR⟩ := completionAll_cons_ok h
  -- whatever is collected or handed on after this rule is covered: by itself when the function returns
  -- here, by the remaining rules otherwise
  have hc : ∀ a, a ∈ addNew res (outs.filter exh) ∨ a ∈ outs.filter (fun w => !exh w) →
      ∃ W ∈ R, ∀ x ∈ a, x ∈ W := by
    rcases hR with ⟨hd, rfl⟩ | ⟨_, h⟩
    · intro a ha
      rw [hd] at ha
      exact ⟨a, ha.resolve_right List.not_mem_nil, fun _ hx => hx⟩
    · exact hcov _ _ _ h
  refine ⟨fun a ha => hc a (.inl (mem_addNew.mpr (.inl ha))), fun a ha => ?_⟩
  obtain ⟨ws, hws, hsub⟩ := (outcomesFrom_ok ho).1 a ha
  exact ⟨ws, hws, fun w hw => hc w ((mem_filter_exh_or (hsub w hw)).imp_left fun h => mem_addNew.mpr (.inr h))⟩

/-- nothing is dropped: every allocation already collected (`res`) or still to be completed (`allocs`)
    is contained in some returned allocation -/
theorem completionAll_covers : ∀ (rules : List AllRule), Extends rules → NonEmpty rules →
    ∀ res allocs R, completionAll exh rules res allocs = .ok R →
      ∀ a, a ∈ res ∨ a ∈ allocs → ∃ W ∈ R, ∀ x ∈ a, x ∈ W := by
  intro rules
  induction rules with
  | nil =>
    intro _ _ res allocs R h a ha
    cases h
    exact ⟨a, List.mem_append.mpr ha, fun _ hx => hx⟩
  | cons r rs ih =>
    intro hext hne res allocs R h a ha
    have hstep := completionAll_step
      (ih (fun r' hr' => hext r' (List.mem_cons_of_mem _ hr')) (fun r' hr' => hne r' (List.mem_cons_of_mem _ hr'))) h
    rcases ha with ha | ha
    · exact hstep.1 a ha
    · obtain ⟨ws, hws, hall⟩ := hstep.2 a ha
      obtain ⟨w, hw⟩ := List.exists_mem_of_ne_nil ws (hne r List.mem_cons_self a ws hws)
      obtain ⟨W, hW, hsub⟩ := hall w hw
      exact ⟨W, hW, fun x hx => hsub x (hext r List.mem_cons_self a ws hws w hw x hx)⟩

/-- Every outcome `W₁` of the first rule on the initial allocation has a completion among the
    returned allocations. -/
theorem completionAll_keeps_all {r : AllRule} {rs : List AllRule} {init W₁ : List Pid}
    {ws₁ R : List (List Pid)}
    (hext : Extends rs) (hne : NonEmpty rs)
    (h1 : r init = .ok ws₁) (hW₁ : W₁ ∈ ws₁)
    (h : completionAll exh (r :: rs) [] [init] = .ok R) :
    ∃ W ∈ R, ∀ x ∈ W₁, x ∈ W := by
  obtain ⟨ws, hws, hall⟩ :=
    (completionAll_step (completionAll_covers rs hext hne) h).2 init List.mem_cons_self
  cases h1.symm.trans hws
  exact hall W₁ hW₁

theorem completionAll_extends_init {rules : List AllRule} {init : List Pid} {R : List (List Pid)}
    (hext : Extends rules) (hne : NonEmpty rules)
    (h : completionAll exh rules [] [init] = .ok R) :
    ∃ W ∈ R, ∀ x ∈ init, x ∈ W :=
  completionAll_covers rules hext hne [] [init] R h init (.inr List.mem_cons_self)

theorem completionAll_inv (P : List Pid → Prop) : ∀ (rules : List AllRule),
    (∀ r ∈ rules, ∀ cur ws, P cur → r cur = .ok ws → ∀ W ∈ ws, P W) →
    ∀ res allocs R, (∀ a ∈ res, P a) → (∀ a ∈ allocs, P a) →
    completionAll exh rules res allocs = .ok R → ∀ W ∈ R, P W := by
  intro rules
  induction rules with
  | nil =>
    intro _ res allocs R h1 h2 h W hW
    cases h
    exact (List.mem_append.mp hW).elim (h1 W) (h2 W)
  | cons r rs ih =>
    intro hrules res allocs R h1 h2 h
    obtain ⟨outs, ho, hR⟩ := completionAll_cons_ok h
    have houts : ∀ w ∈ outs, P w := by
      intro w hw
      obtain ⟨a, ha, ws, hws, hwws⟩ := (outcomesFrom_ok ho).2 w hw
      exact hrules r List.mem_cons_self a ws (h2 a ha) hws w hwws
    have hres : ∀ a ∈ addNew res (outs.filter exh), P a := fun a ha =>
      (mem_addNew.mp ha).elim (h1 a) fun ha => houts a (List.mem_filter.mp ha).1
    rcases hR with ⟨_, rfl⟩ | ⟨_, h⟩
    · exact hres
    · exact ih (fun r' hr' => hrules r' (List.mem_cons_of_mem _ hr')) _ _ R hres
        (fun a ha => houts a (List.mem_filter.mp ha).1) h

theorem completionAll_feasible {feas : List Pid → Bool} {rules : List AllRule} {init : List Pid}
    {R : List (List Pid)}
    (hfeas : ∀ r ∈ rules, ∀ cur ws, feas cur = true → r cur = .ok ws → ∀ W ∈ ws, feas W = true)
    (hinit : feas init = true)
    (h : completionAll exh rules [] [init] = .ok R) : ∀ W ∈ R, feas W = true :=
  completionAll_inv (fun W => feas W = true) rules hfeas [] [init] R
    (fun _ ha => absurd ha List.not_mem_nil) (fun _ ha => List.mem_singleton.mp ha ▸ hinit) h

theorem completionAll_extends {rules : List AllRule} {init : List Pid} {R : List (List Pid)}
    (hext : Extends rules)
    (h : completionAll exh rules [] [init] = .ok R) : ∀ W ∈ R, ∀ x ∈ init, x ∈ W :=
  completionAll_inv (fun W => ∀ x ∈ init, x ∈ W) rules
    (fun r hr cur ws hp hws W hW x hx => hext r hr cur ws hws W hW x (hp x hx)) [] [init] R
    (fun _ ha => absurd ha List.not_mem_nil) (fun _ ha _ hx => List.mem_singleton.mp ha ▸ hx) h

/-- When the last rule of a non-empty sequence only returns exhaustive outcomes (so the function
    returns through the "all exhaustive" branch), every returned allocation is exhaustive. -/
theorem completionAll_exhaustive : ∀ (rules : List AllRule) (hne : rules ≠ []),
    (∀ cur ws, rules.getLast hne cur = .ok ws → ∀ W ∈ ws, exh W = true) →
    ∀ res allocs R, (∀ a ∈ res, exh a = true) →
    completionAll exh rules res allocs = .ok R → ∀ W ∈ R, exh W = true := by
  intro rules
  induction rules with
  | nil => intro hne; exact absurd rfl hne
  | cons r rs ih =>
    intro hne hlast res allocs R hres h
    obtain ⟨outs, ho, hR⟩ := completionAll_cons_ok h
    have hres' : ∀ a ∈ addNew res (outs.filter exh), exh a = true := fun a ha =>
      (mem_addNew.mp ha).elim (hres a) fun ha => (List.mem_filter.mp ha).2
    rcases hR with ⟨_, rfl⟩ | ⟨hd, h⟩
    · exact hres'
    · cases rs with
      | nil =>
        -- the last rule leaves nothing to hand on
        refine absurd (List.filter_eq_nil_iff.mpr fun w hw => ?_) hd
        obtain ⟨a, _, ws, hws, hwws⟩ := (outcomesFrom_ok ho).2 w hw
        rw [hlast a ws hws w hwws]
        exact Bool.false_ne_true
      | cons r' rs' => exact ih (List.cons_ne_nil r' rs') hlast _ _ R hres' h

theorem completionAll_all_exhaustive_branch {r : AllRule} {rs : List AllRule} {allocs outs : List (List Pid)}
    (ho : outcomesFrom r allocs = .ok outs) (hall : ∀ w ∈ outs, exh w = true) :
    completionAll exh (r :: rs) [] allocs = .ok (addNew [] outs) ∧
    ∀ W ∈ addNew [] outs, exh W = true ∧ W ∈ outs := by
  have hf : outs.filter exh = outs := List.filter_eq_self.mpr hall
  have hd : outs.filter (fun w => !exh w) = [] :=
    List.filter_eq_nil_iff.mpr fun w hw => by rw [hall w hw]; exact Bool.false_ne_true
  constructor
  · rw [completionAll, ho]
    show (if _ then _ else _) = _
    rw [if_pos hd, hf]
  · intro W hW
    have hW := (mem_addNew.mp hW).resolve_left List.not_mem_nil
    exact ⟨hall W hW, hW⟩

end completionAll

/-! ### iterated Method of Equal Shares -/

section iterated
variable {V : VCtx} {I : Inst} {init : List Pid} {order : List Pid → Except Err (List Pid)} {inc : Rat}

theorem continues_iterated {b0 : Rat} {r : Nat → List Pid} {j : Nat} :
    Continues (fun _ => false) (fun W => !I.isFeasible W)
        (fun W => I.isExhaustiveOver (MES.initPool V I init) W) inc b0 r j ↔
      I.isFeasible (r j) = true ∧ I.isExhaustiveOver (MES.initPool V I init) (r j) = false := by
  simp only [Continues, true_and, Bool.not_eq_false']

theorem stopsAt_iterated {b0 : Rat} {prev₀ W : List Pid} {r : Nat → List Pid} {k : Nat} :
    StopsAt (fun _ => false) (fun W => !I.isFeasible W)
        (fun W => I.isExhaustiveOver (MES.initPool V I init) W) inc b0 prev₀ r k W ↔
      (I.isFeasible (r k) = true ∧ I.isExhaustiveOver (MES.initPool V I init) (r k) = true ∧ W = r k) ∨
      (I.isFeasible (r k) = false ∧ W = prevOutcome prev₀ r k) := by
  simp only [StopsAt, true_and, Bool.false_eq_true, false_and, or_false, Bool.not_eq_false',
    Bool.not_eq_true']

/-- `r k` = outcome of Equal Shares with per-voter budget `b0 + k·inc` -/
theorem iterated_result {fuel : Nat} {b0 : Rat} {prev₀ W : List Pid} {r : Nat → List Pid}
    (hr : ∀ k : Nat, k < fuel → MES.runAt V I init order (b0 + k * inc) = .ok (r k))
    (h : MES.iterated V I init order inc fuel b0 prev₀ = .ok W) :
    ∃ k, k < fuel ∧
      (∀ j, j < k → I.isFeasible (r j) = true ∧ I.isExhaustiveOver (MES.initPool V I init) (r j) = false) ∧
      ((I.isFeasible (r k) = true ∧ I.isExhaustiveOver (MES.initPool V I init) (r k) = true ∧ W = r k) ∨
       (I.isFeasible (r k) = false ∧ W = prevOutcome prev₀ r k)) := by
  rw [iterated_eq_loop] at h
  obtain ⟨k, hk, hall, hstop⟩ := loop_result fuel b0 prev₀ W r (fun k hk _ => hr k hk) h
  exact ⟨k, hk, fun j hj => continues_iterated.mp (hall j hj), stopsAt_iterated.mp hstop⟩

theorem iterated_complete {fuel k : Nat} {b0 : Rat} {prev₀ W : List Pid} {r : Nat → List Pid}
    (hr : ∀ j : Nat, j ≤ k → MES.runAt V I init order (b0 + j * inc) = .ok (r j))
    (hk : k < fuel)
    (hall : ∀ j, j < k → I.isFeasible (r j) = true ∧ I.isExhaustiveOver (MES.initPool V I init) (r j) = false)
    (hstop : (I.isFeasible (r k) = true ∧ I.isExhaustiveOver (MES.initPool V I init) (r k) = true ∧ W = r k) ∨
       (I.isFeasible (r k) = false ∧ W = prevOutcome prev₀ r k)) :
    MES.iterated V I init order inc fuel b0 prev₀ = .ok W := by
  rw [iterated_eq_loop]
  exact loop_complete k fuel b0 prev₀ W r (fun j hj _ => hr j hj) hk
    (fun j hj => continues_iterated.mpr (hall j hj)) (stopsAt_iterated.mpr hstop)

theorem iterated_feasible {fuel : Nat} {b0 : Rat} {prev₀ W : List Pid}
    (hprev : I.isFeasible prev₀ = true)
    (h : MES.iterated V I init order inc fuel b0 prev₀ = .ok W) : I.isFeasible W = true := by
  rw [iterated_eq_loop] at h
  exact loop_inv (fun W => I.isFeasible W = true) (fun _ W _ hb => (Bool.not_eq_false' (I.isFeasible W)).mp hb)
    fuel b0 prev₀ W hprev h

theorem iterated_terminates_partial {fuel k : Nat} {b0 : Rat} {prev₀ : List Pid} {r : Nat → List Pid}
    (hr : ∀ j : Nat, j ≤ k → MES.runAt V I init order (b0 + j * inc) = .ok (r j))
    (hk : k < fuel)
    (hstop : I.isFeasible (r k) = false ∨ I.isExhaustiveOver (MES.initPool V I init) (r k) = true) :
    ∃ W, MES.iterated V I init order inc fuel b0 prev₀ = .ok W := by
  rw [iterated_eq_loop]
  exact loop_stops k fuel b0 prev₀ r (fun j hj _ => hr j hj) hk (.inr (hstop.imp_left (congrArg not)))

/-- the loop really can fail to stop: if every outcome is feasible and not exhaustive over the pool
    (for instance `inc = 0` and the first outcome is such), every fuel runs out -/
theorem iterated_diverges {b0 : Rat}
    (h : ∀ k : Nat, ∃ W, MES.runAt V I init order (b0 + k * inc) = .ok W ∧ I.isFeasible W = true ∧
      I.isExhaustiveOver (MES.initPool V I init) W = false) (fuel : Nat) (prev₀ : List Pid) :
    MES.iterated V I init order inc fuel b0 prev₀ = .error .fuel := by
  rw [iterated_eq_loop]
  apply loop_diverges
  intro k
  obtain ⟨W, h1, h2, h3⟩ := h k
  exact ⟨rfl, W, h1, congrArg not h2, h3⟩

theorem continues_iteratedAll {b0 : Rat} {r : Nat → List (List Pid)} {j : Nat} :
    Continues (fun _ => false) (fun Ws => Ws.any (fun W => !I.isFeasible W))
        (fun Ws => Ws.any (fun W => I.isExhaustiveOver (MES.initPool V I init) W)) inc b0 r j ↔
      (∀ W ∈ r j, I.isFeasible W = true) ∧
        (∀ W ∈ r j, I.isExhaustiveOver (MES.initPool V I init) W = false) := by
  simp only [Continues, true_and, List.any_eq_false, Bool.not_eq_true, Bool.not_eq_false']

theorem stopsAt_iteratedAll {b0 : Rat} {prev₀ Ws : List (List Pid)} {r : Nat → List (List Pid)} {k : Nat} :
    StopsAt (fun _ => false) (fun Ws => Ws.any (fun W => !I.isFeasible W))
        (fun Ws => Ws.any (fun W => I.isExhaustiveOver (MES.initPool V I init) W)) inc b0 prev₀ r k Ws ↔
      ((∀ W ∈ r k, I.isFeasible W = true) ∧
          (∃ W ∈ r k, I.isExhaustiveOver (MES.initPool V I init) W = true) ∧ Ws = r k) ∨
        ((∃ W ∈ r k, I.isFeasible W = false) ∧ Ws = prevOutcome prev₀ r k) := by
  simp only [StopsAt, true_and, Bool.false_eq_true, false_and, or_false, any_not_eq_false,
    List.any_eq_true, Bool.not_eq_true']

theorem iteratedAll_result {fuel : Nat} {b0 : Rat} {prev₀ Ws : List (List Pid)} {r : Nat → List (List Pid)}
    (hr : ∀ k : Nat, k < fuel → MES.runAllAt V I init order (b0 + k * inc) = .ok (r k))
    (h : MES.iteratedAll V I init order inc fuel b0 prev₀ = .ok Ws) :
    ∃ k, k < fuel ∧
      (∀ j, j < k → (∀ W ∈ r j, I.isFeasible W = true) ∧
        (∀ W ∈ r j, I.isExhaustiveOver (MES.initPool V I init) W = false)) ∧
      (((∀ W ∈ r k, I.isFeasible W = true) ∧
          (∃ W ∈ r k, I.isExhaustiveOver (MES.initPool V I init) W = true) ∧ Ws = r k) ∨
       ((∃ W ∈ r k, I.isFeasible W = false) ∧ Ws = prevOutcome prev₀ r k)) := by
  rw [iteratedAll_eq_loop] at h
  obtain ⟨k, hk, hall, hstop⟩ := loop_result fuel b0 prev₀ Ws r (fun k hk _ => hr k hk) h
  exact ⟨k, hk, fun j hj => continues_iteratedAll.mp (hall j hj), stopsAt_iteratedAll.mp hstop⟩

theorem iteratedAll_feasible {fuel : Nat} {b0 : Rat} {prev₀ Ws : List (List Pid)}
    (hprev : ∀ W ∈ prev₀, I.isFeasible W = true)
    (h : MES.iteratedAll V I init order inc fuel b0 prev₀ = .ok Ws) : ∀ W ∈ Ws, I.isFeasible W = true := by
  rw [iteratedAll_eq_loop] at h
  exact loop_inv (fun Ws => ∀ W ∈ Ws, I.isFeasible W = true) (fun _ _ _ hb => any_not_eq_false.mp hb)
    fuel b0 prev₀ Ws hprev h

theorem iteratedAll_terminates_partial {fuel k : Nat} {b0 : Rat} {prev₀ : List (List Pid)}
    {r : Nat → List (List Pid)}
    (hr : ∀ j : Nat, j ≤ k → MES.runAllAt V I init order (b0 + j * inc) = .ok (r j))
    (hk : k < fuel)
    (hstop : (∃ W ∈ r k, I.isFeasible W = false) ∨
      (∃ W ∈ r k, I.isExhaustiveOver (MES.initPool V I init) W = true)) :
    ∃ Ws, MES.iteratedAll V I init order inc fuel b0 prev₀ = .ok Ws := by
  rw [iteratedAll_eq_loop]
  exact loop_stops k fuel b0 prev₀ r (fun j hj _ => hr j hj) hk
    (.inr (hstop.imp any_not_eq_true.mpr List.any_eq_true.mpr))

end iterated

/-! ### Non-vacuity: concrete base rules -/

/-- a base rule given by a table: budget < 2 ↦ [1]; < 3 ↦ [1,2]; else [1,2,3] -/
def tableRule : Rat → Except Err (List Pid) := fun b =>
  if b < 2 then .ok [1] else if b < 3 then .ok [1, 2] else .ok [1, 2, 3]
/-- feasible for the original instance: at most two projects -/
def feas2 (W : List Pid) : Bool := decide (W.length ≤ 2)
def exhNever (_ : List Pid) : Bool := false
def exhTwo (W : List Pid) : Bool := decide (W.length = 2)
/-- outcomes at budgets 1, 3/2, 2, 5/2, 3, … -/
def rTab : Nat → List Pid := fun k => if k < 2 then [1] else if k < 4 then [1, 2] else [1, 2, 3]

theorem tableRule_total : ∀ c, ∃ W, tableRule c = .ok W := by
  intro c
  unfold tableRule
  split_ifs <;> exact ⟨_, rfl⟩

theorem tableRule_rTab : ∀ k : Nat, k < 6 → tableRule (1 + (k : Rat) * (1 / 2)) = .ok (rTab k) := by
  decide +kernel

/-- stop by infeasibility: budgets 1, 3/2, 2, 5/2 are fine, budget 3 gives three projects ⇒ the outcome
    at 5/2 is returned (try k = 4, second alternative of `budgetIncrease_result`) -/
theorem tableRule_stops_infeasible :
    budgetIncrease tableRule feas2 exhNever true (1 / 2) 10 6 1 [] = .ok [1, 2] := by decide +kernel

example : budgetIncrease tableRule feas2 exhNever true (1 / 2) 10 6 1 [] = .ok [1, 2] := tableRule_stops_infeasible

example : ∃ k : Nat, k < 6 ∧
    (∀ j : Nat, j < k → 1 + (j : Rat) * (1 / 2) ≤ 10 ∧ feas2 (rTab j) = true ∧ ¬ (true = true ∧ exhNever (rTab j) = true)) ∧
    ((1 + (k : Rat) * (1 / 2) ≤ 10 ∧ feas2 (rTab k) = true ∧ (true = true ∧ exhNever (rTab k) = true) ∧ [1, 2] = rTab k) ∨
     (1 + (k : Rat) * (1 / 2) ≤ 10 ∧ feas2 (rTab k) = false ∧ [1, 2] = prevOutcome [] rTab k) ∨
     (10 < 1 + (k : Rat) * (1 / 2) ∧ [1, 2] = prevOutcome [] rTab k)) :=
  budgetIncrease_result (fun k hk _ => tableRule_rTab k hk) tableRule_stops_infeasible

/-- stop by exhaustiveness: the first outcome with two projects (budget 2, try k = 2, first alternative) -/
example : budgetIncrease tableRule feas2 exhTwo true (1 / 2) 10 6 1 [] = .ok [1, 2] := by decide +kernel
/-- stop by the bound (bound 7/4: tries 1, 3/2; third alternative) -/
example : budgetIncrease tableRule feas2 exhTwo false (1 / 2) (7 / 4) 6 1 [] = .ok [1] := by decide +kernel

/-- the same via the converse: try 2 is the first that stops -/
example : budgetIncrease tableRule feas2 exhTwo true (1 / 2) 10 6 1 [] = .ok [1, 2] :=
  budgetIncrease_complete (k := 2) (r := rTab) (fun j hj _ => tableRule_rTab j (by omega)) (by omega)
    (by decide +kernel) (Or.inl (by decide +kernel))

example : feas2 [1, 2] = true :=
  budgetIncrease_feasible (prev₀ := []) (by decide) tableRule_stops_infeasible

/-- 19 steps of 1/2 from 1 pass the bound 10, so fuel 20 suffices -/
example : ∃ W, budgetIncrease tableRule (fun _ => true) exhNever true (1 / 2) 10 20 1 [] = .ok W :=
  budgetIncrease_terminates (N := 19) tableRule_total (by norm_num) (by omega)

/-- FINDING: step 0, `exhaustive_stop = False`, constant feasible outcome: every fuel runs out -/
example (fuel : Nat) : budgetIncrease (fun _ => .ok [1]) (fun _ => true) exhTwo false 0 10 fuel 1 [] = .error .fuel :=
  budgetIncrease_nonpositive_step_diverges (le_refl 0) (by norm_num) (fun _ => ⟨[1], rfl, rfl⟩) fuel []

/-- FINDING, negative step -/
example (fuel : Nat) :
    budgetIncrease tableRule (fun _ => true) exhTwo false (-1) 10 fuel 1 [] = .error .fuel :=
  budgetIncrease_nonpositive_step_diverges (by norm_num) (by norm_num)
    (fun c => by obtain ⟨W, hW⟩ := tableRule_total c; exact ⟨W, hW, rfl⟩) fuel []

/-- irresolute table: budget < 2 ↦ {[1],[2]}; else {[1,2],[1,3,4]} (one infeasible outcome) -/
def tableRuleAll : Rat → Except Err (List (List Pid)) := fun b =>
  if b < 2 then .ok [[1], [2]] else .ok [[1, 2], [1, 3, 4]]

example : budgetIncreaseAll tableRuleAll feas2 exhTwo true 1 10 6 1 [[]] = .ok [[1], [2]] := by decide +kernel

example : ∀ W ∈ [[1], [2]], feas2 W = true :=
  budgetIncreaseAll_feasible (rule := tableRuleAll) (exh := exhTwo) (stop := true) (step := 1) (bound := 10)
    (fuel := 6) (B := 1) (prev₀ := [[]]) (by decide) (by decide +kernel)

/-! completion: rule A adds project 1, rule B adds project 2; exhaustive = contains 2 -/

def ruleA : List Pid → Except Err (List Pid) := fun cur => .ok (cur ++ [1])
def ruleB : List Pid → Except Err (List Pid) := fun cur => .ok (cur ++ [2])
def exhHas2 (W : List Pid) : Bool := W.contains 2

theorem rulesAB_run : completion exhHas2 [ruleA, ruleB] [5] = .ok [5, 1, 2] := by decide

example : completion exhHas2 [ruleA, ruleB] [5] = .ok [5, 1, 2] := rulesAB_run

theorem rulesAB_extend : ∀ r ∈ [ruleA, ruleB], ∀ cur W, r cur = .ok W → ∀ x ∈ cur, x ∈ W := by
  intro r hr cur W h x hx
  rcases List.mem_cons.mp hr with rfl | hr
  · cases h
    exact List.mem_append_left _ hx
  · cases List.mem_singleton.mp hr
    cases h
    exact List.mem_append_left _ hx

example : ∀ x ∈ [5], x ∈ [5, 1, 2] :=
  completion_extends rulesAB_extend rulesAB_run

example : exhHas2 [5, 1, 2] = true :=
  completion_exhaustive [ruleA, ruleB] (List.cons_ne_nil _ _) [5] [5, 1, 2]
    (by
      intro cur W h
      cases h
      simp [exhHas2])
    rulesAB_run

example : ∀ x ∈ [5, 1], x ∈ [5, 1, 2] :=
  completion_extends_first (exh := exhHas2) (r := ruleA) (rs := [ruleB]) (init := [5])
    (fun r' hr' => rulesAB_extend r' (List.mem_cons_of_mem _ hr')) rfl rulesAB_run

/-! irresolute completion: rule A returns two outcomes (one exhaustive), rule B completes the other -/

def ruleAAll : AllRule := fun cur => .ok [cur ++ [1], cur ++ [2]]
def ruleBAll : AllRule := fun cur => .ok [cur ++ [3]]
def exhHas23 (W : List Pid) : Bool := W.contains 2 || W.contains 3

theorem rulesABAll_run : completionAll exhHas23 [ruleAAll, ruleBAll] [] [[]] = .ok [[2], [1, 3]] := by decide

example : completionAll exhHas23 [ruleAAll, ruleBAll] [] [[]] = .ok [[2], [1, 3]] := rulesABAll_run

theorem ruleBAll_extends : Extends [ruleBAll] := by
  intro r hr cur ws h W hW x hx
  cases List.mem_singleton.mp hr
  cases h
  cases List.mem_singleton.mp hW
  exact List.mem_append_left _ hx

theorem ruleBAll_nonEmpty : NonEmpty [ruleBAll] := by
  intro r hr cur ws h
  cases List.mem_singleton.mp hr
  cases h
  exact List.cons_ne_nil _ _

/-- the non-exhaustive first outcome `[1]` is kept and completed to `[1,3]` -/
example : ∃ W ∈ [[2], [1, 3]], ∀ x ∈ [1], x ∈ W :=
  completionAll_keeps_all (exh := exhHas23) (r := ruleAAll) (rs := [ruleBAll]) (init := []) (W₁ := [1])
    ruleBAll_extends ruleBAll_nonEmpty rfl List.mem_cons_self rulesABAll_run

example : ∀ W ∈ [[2], [1, 3]], exhHas23 W = true :=
  completionAll_exhaustive [ruleAAll, ruleBAll] (List.cons_ne_nil _ _)
    (by
      intro cur ws h W hW
      cases h
      cases List.mem_singleton.mp hW
      simp [exhHas23])
    [] [[]] [[2], [1, 3]] (fun _ ha => absurd ha List.not_mem_nil) rulesABAll_run

/-! iterated Equal Shares: two voters (approving {1,2} and {2,3}), budget 4 -/

def itV : VCtx :=
  ⟨[0, 1], fun _ => 1, fun i p => if (i = 0 ∧ (p = 1 ∨ p = 2)) ∨ (i = 1 ∧ (p = 2 ∨ p = 3)) then 1 else 0⟩
/-- costs 2, 2, 3 -/
def itI : Inst := ⟨[1, 2, 3], fun p => if p = 3 then 3 else 2, 4⟩
/-- costs 2, 2, 2 -/
def itI2 : Inst := ⟨[1, 2, 3], fun _ => 2, 4⟩
def idOrder : List Pid → Except Err (List Pid) := fun l => .ok l
def rIt : Nat → List Pid := fun k => if k < 2 then [2] else if k < 3 then [2, 1] else [2, 1, 3]
def rIt2 : Nat → List Pid := fun k => if k < 2 then [2] else [2, 1, 3]

theorem itI_runs : ∀ k : Nat, k < 4 → MES.runAt itV itI [] idOrder (1 + (k : Rat) * 1) = .ok (rIt k) := by
  decide +kernel

theorem itI2_runs : ∀ k : Nat, k < 4 → MES.runAt itV itI2 [] idOrder (1 + (k : Rat) * 1) = .ok (rIt2 k) := by
  decide +kernel

/-- per-voter budgets 1, 2 buy only project 2; budget 3 buys {2,1}, which is exhaustive: returned -/
theorem itI_iterated : MES.iterated itV itI [] idOrder 1 4 1 [] = .ok [2, 1] := by decide +kernel

example : MES.iterated itV itI [] idOrder 1 4 1 [] = .ok [2, 1] := itI_iterated

example : ∃ k : Nat, k < 4 ∧
    (∀ j : Nat, j < k → itI.isFeasible (rIt j) = true ∧ itI.isExhaustiveOver (MES.initPool itV itI []) (rIt j) = false) ∧
    ((itI.isFeasible (rIt k) = true ∧ itI.isExhaustiveOver (MES.initPool itV itI []) (rIt k) = true ∧ [2, 1] = rIt k) ∨
     (itI.isFeasible (rIt k) = false ∧ [2, 1] = prevOutcome [] rIt k)) :=
  iterated_result itI_runs itI_iterated

/-- with all costs 2, per-voter budget 3 buys all three projects (cost 6 > 4): the previous outcome is returned -/
theorem itI2_iterated : MES.iterated itV itI2 [] idOrder 1 4 1 [] = .ok [2] := by decide +kernel

example : MES.iterated itV itI2 [] idOrder 1 4 1 [] = .ok [2] := itI2_iterated

example : ∃ W, MES.iterated itV itI2 [] idOrder 1 4 1 [] = .ok W :=
  iterated_terminates_partial (k := 2) (r := rIt2) (fun j hj => itI2_runs j (by omega)) (by omega)
    (Or.inl (by decide +kernel))

example : itI2.isFeasible [2] = true :=
  iterated_feasible (prev₀ := []) (by decide +kernel) itI2_iterated

end C09
end Pabu
