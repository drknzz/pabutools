/-
  C02 — the Method of Equal Shares selects exactly what its definition prescribes (model side).
  Property theorems and satisfiability examples; the lemmas they rest on are in
  PabuProofs/Lemmas/MES.lean.
-/
import PabuProofs.Lemmas.MES
namespace Pabu.C02
open MES

/-! ### The supporter sweep computes the textbook price -/

/-- the sweep over supporters sorted by `b/u` returns a price at which the supporters, each copy
    paying `min(b, ρ·u)`, cover the cost exactly -/
theorem sweep_exact (l : List Sup) (C D : Rat) (hw : ∀ s ∈ l, s.WF) (hsort : SortedRatio l)
    (hC : 0 < C) (haff : C ≤ budSum l) (hD : D = utilSum l) :
    ∃ rho, sweep C D l = some rho ∧ paySum rho l = C :=
  let ⟨rho, h1, h2, _⟩ := Pabu.sweep_least l C D hw hsort hC haff hD
  ⟨rho, h1, h2⟩

/-- that price is positive and the least at which they cover the cost -/
theorem sweep_least (l : List Sup) (C D : Rat) (hw : ∀ s ∈ l, s.WF) (hsort : SortedRatio l)
    (hC : 0 < C) (haff : C ≤ budSum l) (hD : D = utilSum l) :
    ∃ rho, sweep C D l = some rho ∧ paySum rho l = C ∧ 0 < rho ∧
      ∀ rho', C ≤ paySum rho' l → rho ≤ rho' :=
  Pabu.sweep_least l C D hw hsort hC haff hD

/-- the sort used before the sweep yields a permutation of the supporters sorted by `b/u`;
    the three sums do not depend on the order -/
theorem sort_sorted_perm (l : List Sup) (hw : ∀ s ∈ l, s.WF) :
    SortedRatio (sortLe ratioLe l) ∧ (sortLe ratioLe l).Perm l ∧
      (∀ r, paySum r (sortLe ratioLe l) = paySum r l) ∧
      budSum (sortLe ratioLe l) = budSum l ∧ utilSum (sortLe ratioLe l) = utilSum l :=
  ⟨sortLe_ratioLe_sorted l hw, sortLe_perm ratioLe l,
   fun r => paySum_perm r (sortLe_perm ratioLe l), budSum_perm (sortLe_perm ratioLe l),
   utilSum_perm (sortLe_perm ratioLe l)⟩

/-- the price of a project: its supporters cover the cost exactly, it is positive, and no smaller
    price covers the cost -/
theorem rho_exact_least {V : VCtx} {cost : Pid → Rat} {b : Nat → Rat} {p : Pid} {r : Rat}
    (hb : ∀ i ∈ V.vs, 0 ≤ b i) (hm : ∀ i ∈ V.vs, 1 ≤ V.m i) (hc : 0 < cost p)
    (hr : rho V cost b p = some r) :
    paySum r (sups V b p) = cost p ∧ 0 < r ∧ ∀ r', cost p ≤ paySum r' (sups V b p) → r ≤ r' :=
  rho_spec ⟨hb, hm⟩ hc hr

theorem rho_none_iff {V : VCtx} {cost : Pid → Rat} {b : Nat → Rat} {p : Pid}
    (hb : ∀ i ∈ V.vs, 0 ≤ b i) (hm : ∀ i ∈ V.vs, 1 ≤ V.m i) (hc : 0 < cost p) :
    rho V cost b p = none ↔ budSum (sups V b p) < cost p :=
  MES.rho_none_iff ⟨hb, hm⟩ hc

/-! ### A round buys a project of least price; the run stops when nothing is affordable -/

theorem tied_argmin {V : VCtx} {cost : Pid → Rat} {s : State} {t : Pid} :
    t ∈ tied V cost s ↔ t ∈ s.pool ∧ ∃ r, rho V cost s.b t = some r ∧
      ∀ q ∈ s.pool, ∀ r', rho V cost s.b q = some r' → r ≤ r' :=
  mem_tied_iff

theorem tied_nil_iff {V : VCtx} {cost : Pid → Rat} {s : State} :
    tied V cost s = [] ↔ ∀ p ∈ s.pool, rho V cost s.b p = none :=
  MES.tied_nil_iff

/-- a successful resolute run (`method_of_equal_shares`, plain) is a run of the textbook
    procedure: there is a record `L` of rounds, each buying a tied project at the least price,
    from the initial state (everybody holds budget/n, supported zero-cost projects included) to a
    state whose allocation is the result; if the tie-breaking never returns an empty list, no
    remaining project has a price in that state -/
theorem run_textbook {V : VCtx} {I : Inst} {init : List Pid}
    {order : List Pid → Except Err (List Pid)}
    (hord : ∀ T l, order T = .ok l → ∀ x ∈ l, x ∈ T) {W : List Pid}
    (hW : MES.run V I init order = .ok W) :
    ∃ L s', Recorded V I.cost (initState V I init (I.budget / (numVoters V : Nat))) L s' ∧
      W = s'.alloc ∧
      W = init ++ zeroCost V I init ++ L.filterMap (fun it => it.selected) ∧
      ((∀ T, T ≠ [] → order T ≠ .ok []) → ∀ p ∈ s'.pool, rho V I.cost s'.b p = none) := by
  obtain ⟨L, s', _, hrec, hWa, hstop⟩ := runAt_recorded hord hW
  exact ⟨L, s', hrec, hWa, by rw [hWa, hrec.alloc]; rfl, hstop⟩

/-! ### Outcomes are feasible sets of projects; the `Except`-valued run is the pure one -/

/-- every outcome of the pure resolute run: cost within budget (plus the initial projects),
    contains the initial projects, no repeats, only projects of the instance -/
theorem runP_outcome {V : VCtx} {I : Inst} {init : List Pid} (h : InputOK V I init)
    (hB : 0 ≤ I.budget) (ord : List Pid → List Pid) (hord : ∀ T, ∀ x ∈ ord T, x ∈ T) (n : Nat) :
    let W := (rule V I.cost).runP ord n (initState V I init (I.budget / (numVoters V : Nat)))
    costOf I.cost W ≤ I.budget + costOf I.cost init ∧
      (∀ p ∈ init, p ∈ W) ∧ W.Nodup ∧ ∀ p ∈ W, p ∈ I.projects := by
  obtain ⟨h1, h2⟩ := runP_bounds h ord hord _ (share_nonneg V I hB) n
  exact ⟨h1.trans (share_bound V I hB _), h2⟩

/-- the same for every outcome of the pure irresolute run -/
theorem runAllP_outcome {V : VCtx} {I : Inst} {init : List Pid} (h : InputOK V I init)
    (hB : 0 ≤ I.budget) (n : Nat) :
    ∀ W ∈ (rule V I.cost).runAllP n (initState V I init (I.budget / (numVoters V : Nat))),
    costOf I.cost W ≤ I.budget + costOf I.cost init ∧
      (∀ p ∈ init, p ∈ W) ∧ W.Nodup ∧ ∀ p ∈ W, p ∈ I.projects := by
  intro W hW
  obtain ⟨h1, h2⟩ := runAllP_bounds h _ (share_nonneg V I hB) n W hW
  exact ⟨h1.trans (share_bound V I hB _), h2⟩

/-- the same for the `Except`-valued run executed by the driver, for any order function that
    returns elements of its argument (it may fail) -/
theorem run_outcome {V : VCtx} {I : Inst} {init : List Pid} (h : InputOK V I init)
    (hB : 0 ≤ I.budget) {order : List Pid → Except Err (List Pid)}
    (hord : ∀ T l, order T = .ok l → ∀ x ∈ l, x ∈ T) {W : List Pid}
    (hW : MES.run V I init order = .ok W) :
    costOf I.cost W ≤ I.budget + costOf I.cost init ∧
      (∀ p ∈ init, p ∈ W) ∧ W.Nodup ∧ ∀ p ∈ W, p ∈ I.projects := by
  obtain ⟨h1, h2⟩ := runAt_bounds h hord (share_nonneg V I hB) hW
  exact ⟨h1.trans (share_bound V I hB _), h2⟩

/-- the same for every outcome of the driver's irresolute run -/
theorem runAll_outcome {V : VCtx} {I : Inst} {init : List Pid} (h : InputOK V I init)
    (hB : 0 ≤ I.budget) {order : List Pid → Except Err (List Pid)}
    (hord : ∀ T l, order T = .ok l → ∀ x ∈ l, x ∈ T) {Ws : List (List Pid)}
    (hWs : MES.runAll V I init order = .ok Ws) :
    ∀ W ∈ Ws, costOf I.cost W ≤ I.budget + costOf I.cost init ∧
      (∀ p ∈ init, p ∈ W) ∧ W.Nodup ∧ ∀ p ∈ W, p ∈ I.projects := by
  intro W hW
  obtain ⟨h1, h2⟩ := runAllAt_bounds h hord (share_nonneg V I hB) hWs W hW
  exact ⟨h1.trans (share_bound V I hB _), h2⟩

theorem run_eq_runP (V : VCtx) (I : Inst) (init : List Pid) (ord : List Pid → List Pid) :
    MES.run V I init (fun l => .ok (ord l)) =
      .ok ((rule V I.cost).runP (ordIfTie ord) (initPool V I init).length
        (initState V I init (I.budget / (numVoters V : Nat)))) :=
  runAt_eq_runP V I init ord _

/-! ### The hypotheses are satisfiable on non-trivial inputs -/

/-- two supporters with different ratios and multiplicities: sorted, well-formed, affordable -/
example : let l : List Sup := [⟨1, 2, 1⟩, ⟨3, 1, 2⟩]
    (∀ s ∈ l, s.WF) ∧ SortedRatio l ∧ (0:Rat) < 5 ∧ (5:Rat) ≤ budSum l := by
  unfold Sup.WF SortedRatio
  decide +kernel

/-- on it the sweep skips the poor supporter and returns the price 2, which covers 5 exactly -/
example : sweep 5 (utilSum [⟨1, 2, 1⟩, ⟨3, 1, 2⟩]) [⟨1, 2, 1⟩, ⟨3, 1, 2⟩] = some 2 ∧
    paySum 2 [⟨1, 2, 1⟩, ⟨3, 1, 2⟩] = 5 := by
  decide +kernel

def exV : VCtx := ⟨[0, 1, 2], fun i => i + 1, fun i p => if (i + p) % 2 = 0 then 1 else 0⟩
def exI : Inst := ⟨[0, 1, 2, 3], fun p => (p : Rat), 6⟩

/-- three voter entries with multiplicities 1,2,3, four projects (one of cost 0), one initial -/
example : InputOK exV exI [3] ∧ 0 ≤ exI.budget ∧
    (∀ T l, (fun l => (Except.ok l : Except Err (List Pid))) T = .ok l → ∀ x ∈ l, x ∈ T) := by
  refine ⟨⟨fun i _ => Nat.le_add_left 1 i, by decide, by decide, by decide, fun p _ => Nat.cast_nonneg p⟩,
    by decide +kernel, fun T l h x hx => Except.ok.inj h ▸ hx⟩

/-- on this input the run buys two projects after the initial and the zero-cost one -/
example : MES.run exV exI [3] (fun l => .ok l) = .ok [3, 0, 1, 2] := by decide +kernel

end Pabu.C02
