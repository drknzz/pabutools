/-
  Bridge C19 — the regenerated leaves of rule comparison (Gen/C19.lean, produced from the current source of
  pabutools/rules/composition.py on every run) against the model (PabuModel/Composition.lean).

  The code computes its arg-max with a running maximum:  `if max is None or x > max: max = x; argmax = [r]`
  `elif x == max: argmax.append(r)`.  `argmaxLoop improves ties` is that loop over an arbitrary pair of tests;
  `argmaxLoop_spec` proves that, for tests that are "first or strictly greater" and "equal", the loop returns
  the maximum and exactly the elements attaining it, in order (`filter (· = max)`).  The two instances
  (`welfareCmp`, `favourites`) plug in the regenerated tests, so replacing `>` by `>=` or `==` by anything
  else in the source breaks them.  The statement-level loops `Gen.C19.welfareLoop` and `Gen.C19.voterLoop` are
  that same loop (`welfareLoop_spec`, `voterLoop_spec`).

  Beside the arg-max: the loop that collects the distinct outcomes (`collectLoop`, `isNew`), the update of an
  outcome's support by a voter (`supportUpdate`) and the final filter of the popularity comparison
  (`isMostSupported`).
-/
import Gen.C19
import PabuModel.Composition
import PabuProofs.Lemmas.Basic
namespace Pabu.Bridge.C19
open Composition

/-! ### the running-maximum loop of the code -/

/-- one iteration: state = (`max`, `argmax`) -/
def step {α : Type} (improves : Bool → Rat → Rat → Bool) (ties : Rat → Rat → Bool) (f : α → Rat)
    (st : Option Rat × List α) (x : α) : Option Rat × List α :=
  match st.1 with
  | none => if improves true (f x) 0 = true then (some (f x), [x]) else st
  | some m =>
    if improves false (f x) m = true then (some (f x), [x])
    else if ties (f x) m = true then (some m, st.2 ++ [x])
    else st

/-- `max = None; argmax = None; for x in xs: …` -/
def argmaxLoop {α : Type} (improves : Bool → Rat → Rat → Bool) (ties : Rat → Rat → Bool) (f : α → Rat)
    (xs : List α) : Option Rat × List α :=
  xs.foldl (step improves ties f) (none, [])

/-- what the loop is meant to compute -/
def argmaxSpec {α : Type} (f : α → Rat) (xs : List α) : Option Rat × List α :=
  (maxRat (xs.map f),
    match maxRat (xs.map f) with
    | none => []
    | some mx => xs.filter (fun r => decide (f r = mx)))

theorem maxRat_eq_some {l : List Rat} {v : Rat} (hv : v ∈ l) (hle : ∀ x ∈ l, x ≤ v) : maxRat l = some v :=
  Pabu.maxRat_eq_some hv hle

theorem maxRat_snoc (l : List Rat) (x : Rat) :
    maxRat (l ++ [x]) = some (match maxRat l with
      | none => x
      | some m => if m < x then x else m) := by
  cases h : maxRat l with
  | none =>
    rw [maxRat_eq_none.mp h]
    rfl
  | some m =>
    obtain ⟨hmem, hge⟩ := maxRat_some h
    -- the new maximum is a member and bounds the old members through `m`
    have key : ∀ v, v ∈ l ++ [x] → m ≤ v → x ≤ v → maxRat (l ++ [x]) = some v := fun v hv hm hx =>
      maxRat_eq_some hv fun y hy => (List.mem_append.mp hy).elim (fun hy => le_trans (hge y hy) hm)
        fun hy => List.mem_singleton.mp hy ▸ hx
    show maxRat (l ++ [x]) = some (if m < x then x else m)
    by_cases hx : m < x
    · rw [if_pos hx]
      exact key x (List.mem_append_right _ List.mem_cons_self) hx.le (le_refl x)
    · rw [if_neg hx]
      exact key m (List.mem_append_left _ hmem) (le_refl m) (not_lt.mp hx)

/-- one iteration of the loop preserves "state = specification of the prefix" -/
theorem step_spec {α : Type} (improves : Bool → Rat → Rat → Bool) (ties : Rat → Rat → Bool)
    (hfirst : ∀ x b, improves true x b = true)
    (himp : ∀ x b, improves false x b = decide (x > b))
    (hties : ∀ x b, ties x b = decide (x = b))
    (f : α → Rat) (pre : List α) (x : α) :
    step improves ties f (argmaxSpec f pre) x = argmaxSpec f (pre ++ [x]) := by
  unfold argmaxSpec step
  rw [List.map_append, List.map_singleton, maxRat_snoc]
  cases h : maxRat (pre.map f) with
  | none =>
    cases List.map_eq_nil_iff.mp (maxRat_eq_none.mp h)
    simp [hfirst]
  | some m =>
    have hge : ∀ y ∈ pre, f y ≤ m := fun y hy => (maxRat_some h).2 _ (List.mem_map_of_mem hy)
    simp only [himp, hties, gt_iff_lt, decide_eq_true_eq, List.filter_append]
    by_cases hlt : m < f x
    · -- a new strict maximum: no earlier element attains it
      have : pre.filter (fun r => decide (f r = f x)) = [] :=
        List.filter_eq_nil_iff.mpr fun y hy => by simpa using (lt_of_le_of_lt (hge y hy) hlt).ne
      simp [hlt, this]
    · by_cases heq : f x = m <;> simp [hlt, heq]

/-- a loop that replaces when `improves` (first element, or strictly greater than the running maximum) and
    appends when `ties` (equal to it) computes the maximum and exactly `filter (· = max)` -/
theorem argmaxLoop_spec {α : Type} (improves : Bool → Rat → Rat → Bool) (ties : Rat → Rat → Bool)
    (hfirst : ∀ x b, improves true x b = true)
    (himp : ∀ x b, improves false x b = decide (x > b))
    (hties : ∀ x b, ties x b = decide (x = b))
    (f : α → Rat) (xs : List α) :
    argmaxLoop improves ties f xs = argmaxSpec f xs := by
  unfold argmaxLoop
  have key : ∀ (ys pre : List α),
      ys.foldl (step improves ties f) (argmaxSpec f pre) = argmaxSpec f (pre ++ ys) := by
    intro ys
    induction ys with
    | nil => intro pre; rw [List.append_nil]; rfl
    | cons y ys ih =>
      intro pre
      rw [List.foldl_cons, step_spec improves ties hfirst himp hties, ih, List.append_assoc]
      rfl
  exact key xs []

/-! ### the regenerated tests are of that shape -/

/-- `max_social_welfare is None or social_welfare > max_social_welfare` -/
theorem welfareImproves (x best : Rat) :
    Gen.C19.welfareImproves true x best = true ∧ Gen.C19.welfareImproves false x best = decide (x > best) := by
  unfold Gen.C19.welfareImproves
  simp

/-- `social_welfare == max_social_welfare` -/
theorem welfareTies (x best : Rat) : Gen.C19.welfareTies x best = decide (x = best) := rfl

/-- `max_sat is None or s > max_sat` -/
theorem voterImproves (x best : Rat) :
    Gen.C19.voterImproves true x best = true ∧ Gen.C19.voterImproves false x best = decide (x > best) := by
  unfold Gen.C19.voterImproves
  simp

/-- `s == max_sat` -/
theorem voterTies (x best : Rat) : Gen.C19.voterTies x best = decide (x = best) := rfl

/-! ### the model's formulas are the code's loops -/

/-- the loop `for …: if all(set(res) != set(other) for other in results): results.append(res)` over an arbitrary
    pair of tests (`isNew` of the value of `all(…)`, `differs` of "same outcome") -/
def collectLoop (isNew : Bool → Bool) (differs : Bool → Bool) (rs : List (List Pid)) : List (List Pid) :=
  rs.foldl (fun acc r => if isNew (acc.all (fun o => differs (r == o))) = true then acc ++ [r] else acc) []

theorem collect_spec (acc rs : List (List Pid)) :
    rs.foldl (fun acc r => if acc.all (fun o => !(r == o)) = true then acc ++ [r] else acc) acc =
      acc ++ (dedup rs).filter (fun y => acc.all (fun o => !(y == o))) := by
  induction rs generalizing acc with
  | nil => exact (List.append_nil acc).symm
  | cons x xs ih =>
    rw [List.foldl_cons, dedup, List.filter_cons, ih, List.filter_filter]
    by_cases hx : acc.all (fun o => !(x == o)) = true
    · -- `x` is new: from now on "new" means new for `acc` and different from `x`
      rw [if_pos hx, if_pos hx, List.append_assoc, List.singleton_append]
      congr 2
      refine List.filter_congr fun y _ => ?_
      rw [List.all_append, List.all_cons, List.all_nil, Bool.and_true]
    · -- `x` is in `acc`: what is new for `acc` differs from `x` anyway
      rw [if_neg hx, if_neg hx]
      congr 1
      refine List.filter_congr fun y _ => ?_
      cases hy : acc.all (fun o => !(y == o)) with
      | false => rfl
      | true => rw [beq_false_of_ne fun e : y = x => hx (e ▸ hy)]; rfl

/-- the distinct outcomes of the model are what the code's loop collects (outcomes reach the model as sorted id
    lists, so `set(res) != set(other)` is list inequality there) -/
theorem isNew (rs : List (List Pid)) :
    distinct rs = collectLoop Gen.C19.isNew Gen.C19.differs rs ∧
    distinct rs = collectLoop Gen.C19.isNewPopularity Gen.C19.differsPopularity rs := by
  have h := collect_spec [] rs
  simp only [List.all_nil, List.nil_append, List.filter_true] at h
  exact ⟨h.symm, h.symm⟩

/-- `social_welfare_comparison`: the model's result is the `argmax` list of the code's loop over the distinct
    outcomes -/
theorem welfareCmp (tsat : List Pid → Rat) (rs : List (List Pid)) :
    Composition.welfareCmp tsat rs =
      (argmaxLoop Gen.C19.welfareImproves Gen.C19.welfareTies tsat (distinct rs)).2 := by
  rw [argmaxLoop_spec _ _ (fun x b => (welfareImproves x b).1) (fun x b => (welfareImproves x b).2) welfareTies]
  rfl

theorem welfareLoop_cons (x : Nat × Rat) (xs : List (Nat × Rat)) (best : Option Rat) (argP : List (Nat × Rat)) :
    Gen.C19.welfareLoop best (argP.map Prod.fst) (x :: xs) =
      Gen.C19.welfareLoop (step Gen.C19.welfareImproves Gen.C19.welfareTies Prod.snd (best, argP) x).1
        ((step Gen.C19.welfareImproves Gen.C19.welfareTies Prod.snd (best, argP) x).2.map Prod.fst) xs := by
  rw [Gen.C19.welfareLoop]
  cases best with
  | none => rfl
  | some m =>
    simp only [Option.isNone_some, Bool.false_or, Gen.C19.gtOpt, Gen.C19.eqOpt, step, Gen.C19.welfareImproves,
      Gen.C19.welfareTies]
    by_cases h1 : x.2 > m
    · simp [h1]
    · by_cases h2 : x.2 = m <;> simp [h1, h2]

/-- the WHOLE arg-max loop of `social_welfare_comparison` (statement-level leaf `Gen.C19.welfareLoop`, regenerated from
    `for result in results: …`): on the outcomes paired with their total satisfaction it is the running-maximum loop `step` the
    theorems above are about — same maximum, same list of maximisers in the same order -/
theorem welfareLoop_eq_foldl : ∀ (xs : List (Nat × Rat)) (best : Option Rat) (argP : List (Nat × Rat)),
    Gen.C19.welfareLoop best (argP.map Prod.fst) xs =
      (fun st => (st.1, st.2.map Prod.fst))
        (xs.foldl (step Gen.C19.welfareImproves Gen.C19.welfareTies Prod.snd) (best, argP))
  | [], best, argP => rfl
  | x :: xs, best, argP => by
    rw [welfareLoop_cons, List.foldl_cons]
    exact welfareLoop_eq_foldl xs _ _

/-- the regenerated loop, started as the code starts it (`None`, no arg-max yet) on the distinct outcomes numbered in order,
    returns the positions of exactly the outcomes the model's `welfareCmp` returns -/
theorem welfareLoop_spec (f : Nat → Rat) (idx : List Nat) :
    Gen.C19.welfareLoop none [] (idx.map (fun i => (i, f i))) =
      (maxRat (idx.map f), match maxRat (idx.map f) with
        | none => []
        | some mx => idx.filter (fun i => decide (f i = mx))) := by
  have h := welfareLoop_eq_foldl (idx.map (fun i => (i, f i))) none []
  rw [List.map_nil] at h
  have hs := argmaxLoop_spec Gen.C19.welfareImproves Gen.C19.welfareTies (fun x b => (welfareImproves x b).1)
    (fun x b => (welfareImproves x b).2) welfareTies (Prod.snd : Nat × Rat → Rat) (idx.map (fun i => (i, f i)))
  rw [argmaxLoop] at hs
  rw [h, hs, argmaxSpec, List.map_map, show (Prod.snd ∘ fun i => (i, f i)) = f from rfl]
  cases maxRat (idx.map f) with
  | none => rfl
  | some mx => simp only [List.filter_map, List.map_map, Function.comp_def, List.map_id']

/-- the per-voter arg-max loop of `popularity_comparison` (statement-level leaf `Gen.C19.voterLoop`, regenerated from
    `for i, s in enumerate(sats): …`) is the SAME loop as the one of the welfare comparison -/
theorem voterLoop_eq_welfareLoop : ∀ (xs : List (Nat × Rat)) (best : Option Rat) (arg : List Nat),
    Gen.C19.voterLoop best arg xs = Gen.C19.welfareLoop best arg xs
  | [], best, arg => by simp [Gen.C19.voterLoop, Gen.C19.welfareLoop]
  | x :: xs, best, arg => by
    rw [Gen.C19.voterLoop, Gen.C19.welfareLoop, voterLoop_eq_welfareLoop xs, voterLoop_eq_welfareLoop xs, voterLoop_eq_welfareLoop xs]

/-- on a voter's satisfactions with the outcomes numbered in order, it returns the positions of exactly the voter's
    favourite outcomes (all of them when she is indifferent) -/
theorem voterLoop_spec (f : Nat → Rat) (idx : List Nat) :
    Gen.C19.voterLoop none [] (idx.map (fun i => (i, f i))) =
      (maxRat (idx.map f), match maxRat (idx.map f) with
        | none => []
        | some mx => idx.filter (fun i => decide (f i = mx))) := by
  rw [voterLoop_eq_welfareLoop, welfareLoop_spec]

/-- the per-voter loop of `popularity_comparison`: the model's favourites of a voter are the `arg_max_sat`
    list of the code's loop -/
theorem favourites (s : List Pid → Rat) (rs : List (List Pid)) :
    Composition.favourites s rs = (argmaxLoop Gen.C19.voterImproves Gen.C19.voterTies s rs).2 := by
  rw [argmaxLoop_spec _ _ (fun x b => (voterImproves x b).1) (fun x b => (voterImproves x b).2) voterTies]
  rfl

/-- `result_support[i] += sat_profile.multiplicity(sat)` for the outcomes in a voter's `arg_max_sat` -/
theorem supportUpdate (v : (List Pid → Rat) × Nat) (voters : List ((List Pid → Rat) × Nat))
    (rs : List (List Pid)) (r : List Pid) :
    ((support (v :: voters) rs r : Nat) : Rat) =
      if ((argmaxLoop Gen.C19.voterImproves Gen.C19.voterTies v.1 rs).2).contains r = true then
        Gen.C19.supportUpdate ((support voters rs r : Nat) : Rat) ((v.2 : Nat) : Rat)
      else ((support voters rs r : Nat) : Rat) := by
  rw [← favourites, support, sumNat_cons, ← support, Nat.cast_add, add_comm]
  split
  · rfl
  · rw [Nat.cast_zero, add_zero]

/-- the final filter `s == max_support`, `max_support = max(result_support)` -/
theorem isMostSupported (voters : List ((List Pid → Rat) × Nat)) (rs : List (List Pid)) :
    Composition.popularityCmp voters rs =
      (distinct rs).filter (fun r =>
        Gen.C19.isMostSupported ((support voters (distinct rs) r : Nat) : Rat)
          (Gen.C19.maxSupport ((maxNat ((distinct rs).map (support voters (distinct rs))) : Nat) : Rat))) := by
  unfold popularityCmp Gen.C19.isMostSupported Gen.C19.maxSupport
  congr 1
  funext r
  rw [Bool.eq_iff_iff]
  simp

example : (argmaxLoop Gen.C19.welfareImproves Gen.C19.welfareTies (fun n : Nat => ((n % 3 : Nat) : Rat)) [1, 2, 4, 5, 3]).2 = [2, 5] := by
  decide +kernel

end Pabu.Bridge.C19
