/-
  C02 (the `budget / sat` memo of `MESVoter`).  A memo whose key determines the arguments (`keyOf`
  injective) is invisible: every call of every call sequence returns `f args`, whatever the table
  held before, as long as the memo itself filled it (`Sound`).  The library's key is the pair
  `(proj, self.budget)`, regenerated as `Gen.C02.cacheLookupKey` / `cacheStoreKey`, so a voter's
  requests always return `budget / sat(project)`, the sort key of the supporter sweep.  Keyed by the
  project alone or by the budget alone, the second request returns the first request's ratio.
-/
import PabuModel.Memo
import Gen.C02
import Mathlib.Tactic.NormNum
import Mathlib.Algebra.Order.Field.Rat
namespace Pabu
namespace Memo

set_option linter.unusedSectionVars false
variable {α κ β : Type} [DecidableEq κ]

/-- every entry of the table was computed by `f` from arguments with that key -/
def Sound (keyOf : α → κ) (f : α → β) (t : Table κ β) : Prop :=
  ∀ e ∈ t, ∃ a, keyOf a = e.1 ∧ f a = e.2

theorem lookup_some {t : Table κ β} {k : κ} {v : β} (h : lookup t k = some v) : (k, v) ∈ t := by
  unfold lookup at h
  cases hf : t.find? (fun e => decide (e.1 = k)) with
  | none => rw [hf] at h; cases h
  | some e =>
    rw [hf] at h
    injection h with h
    have hk : e.1 = k := of_decide_eq_true (List.find?_some (p := fun (e : κ × β) => decide (e.1 = k)) hf)
    have hm := List.mem_of_find?_eq_some hf
    rw [← hk, ← h]
    exact hm

theorem call_spec {keyOf : α → κ} {f : α → β} (hinj : Function.Injective keyOf) {t : Table κ β}
    (ht : Sound keyOf f t) (a : α) : (call keyOf f t a).1 = f a ∧ Sound keyOf f (call keyOf f t a).2 := by
  unfold call
  cases hl : lookup t (keyOf a) with
  | some v =>
    obtain ⟨a', hk, hv⟩ := ht _ (lookup_some hl)
    have : a' = a := hinj hk
    subst this
    exact ⟨hv.symm, ht⟩
  | none =>
    refine ⟨rfl, ?_⟩
    intro e he
    rcases List.mem_cons.1 he with he | he
    · exact ⟨a, by rw [he], by rw [he]⟩
    · exact ht e he

theorem calls_transparent {keyOf : α → κ} {f : α → β} (hinj : Function.Injective keyOf) :
    ∀ (as : List α) (t : Table κ β), Sound keyOf f t → calls keyOf f t as = as.map f
  | [], _, _ => rfl
  | a :: as, t, ht => by
    obtain ⟨h1, h2⟩ := call_spec hinj ht a
    rw [calls, List.map_cons, h1, calls_transparent hinj as _ h2]

theorem sound_nil (keyOf : α → κ) (f : α → β) : Sound keyOf f ([] : Table κ β) := fun _ h => by cases h

/-- the key the library uses (regenerated from the source): the pair of both arguments, at the
    lookup and at the store alike -/
def mesKey (a : Pid × Rat) : Rat × Rat := Gen.C02.cacheLookupKey ((a.1 : Nat) : Rat) a.2

theorem mesKey_store (a : Pid × Rat) : Gen.C02.cacheStoreKey ((a.1 : Nat) : Rat) a.2 = mesKey a := rfl

theorem mesKey_injective : Function.Injective mesKey := by
  intro a b h
  unfold mesKey Gen.C02.cacheLookupKey at h
  injection h with h1 h2
  have : a.1 = b.1 := Nat.cast_injective h1
  exact Prod.ext this h2

/-- `MESVoter.budget_over_sat_project` along any sequence of requests (the budget changes between
    them, the table is kept): always `budget / sat(project)` -/
theorem mesVoter_memo (u : Pid → Rat) (requests : List (Pid × Rat)) :
    calls mesKey (budgetOverSat u) [] requests = requests.map (fun a => a.2 / u a.1) :=
  calls_transparent mesKey_injective requests [] (sound_nil _ _)

/-- keyed by the project alone: after the voter has paid (budget 4 → 1) the ratio of the first
    request comes back -/
theorem project_only_key_stale :
    calls (fun a : Pid × Rat => a.1) (budgetOverSat (fun _ => 2)) [] [(0, 4), (0, 1)] = [2, 2] ∧
    ([(0, 4), (0, 1)] : List (Pid × Rat)).map (budgetOverSat (fun _ => 2)) = [2, 1 / 2] := by
  constructor <;> decide +kernel

/-- keyed by the budget alone: the ratio computed for the first project is returned for every
    other project -/
theorem budget_only_key_stale :
    calls (fun a : Pid × Rat => a.2) (budgetOverSat (fun p => if p = 0 then 1 else 3)) [] [(0, 3), (1, 3)] = [3, 3] ∧
    ([(0, 3), (1, 3)] : List (Pid × Rat)).map (budgetOverSat (fun p => if p = 0 then 1 else 3)) = [3, 1] := by
  constructor <;> decide +kernel

end Memo
end Pabu
