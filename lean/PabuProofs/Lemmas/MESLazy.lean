/-
  Lemmas about the lazy form of the Method of Equal Shares (PabuModel/MESLazy.lean):
  * prices only go up when money is spent (`rho_mono`), unaffordable stays unaffordable;
  * the binary-satisfaction shortcut computes the same price and the same payments;
  * the invariant of the lazy round (`ScanInv`): after visiting a prefix of the pool in increasing
    order of stored affordability, `best`/`tied` are the minimum / arg-min of the true prices over
    that prefix; the early `break` only skips projects whose true price exceeds `best`;
  * the relation `Rel` between lazy and eager states along which the lazy rounds simulate the eager
    ones (`RoundRule.Sim`);
  * whole runs: the lazy run and the lazy iterated variants return what the eager ones return
    (`runAtLazy_eq_runAt`, `iteratedLazy_eq_iterated`).
-/
import PabuModel.MESLazy
import PabuProofs.Lemmas.Tie
namespace Pabu
namespace MESLazy
open MES

/-! ### Prices as a function of the budgets -/

theorem paySum_sups_mono {V : VCtx} {b b' : Nat → Rat} (hle : ∀ i ∈ V.vs, b' i ≤ b i) (p : Pid)
    (r : Rat) : paySum r (sups V b' p) ≤ paySum r (sups V b p) := by
  rw [paySum_sups_eq, paySum_sups_eq]
  exact sumOver_mono fun i hi => mul_le_mul_of_nonneg_left
    (min_le_min_right _ (hle i (mem_supporters.mp hi).1)) (Nat.cast_nonneg _)

theorem budSum_sups_mono {V : VCtx} {b b' : Nat → Rat} (hle : ∀ i ∈ V.vs, b' i ≤ b i) (p : Pid) :
    budSum (sups V b' p) ≤ budSum (sups V b p) := by
  rw [budSum_sups_eq, budSum_sups_eq]
  exact sumOver_mono fun i hi => mul_le_mul_of_nonneg_left (hle i (mem_supporters.mp hi).1)
    (Nat.cast_nonneg _)

theorem rho_none_mono {V : VCtx} {cost : Pid → Rat} {b b' : Nat → Rat} {p : Pid}
    (h : VOK V b) (hle : ∀ i ∈ V.vs, b' i ≤ b i) (hc : 0 < cost p)
    (hr : rho V cost b p = none) : rho V cost b' p = none :=
  rho_of_lt (lt_of_le_of_lt (budSum_sups_mono hle p) ((rho_none_iff h hc).mp hr))

/-- prices never go down as money is spent -/
theorem rho_mono {V : VCtx} {cost : Pid → Rat} {b b' : Nat → Rat} {p : Pid} {r' : Rat}
    (h : VOK V b) (h' : VOK V b') (hle : ∀ i ∈ V.vs, b' i ≤ b i) (hc : 0 < cost p)
    (hr : rho V cost b' p = some r') : ∃ r, rho V cost b p = some r ∧ r ≤ r' := by
  cases hrb : rho V cost b p with
  | none => rw [rho_none_mono h hle hc hrb] at hr; cases hr
  | some r =>
    refine ⟨r, rfl, rho_least h hc hrb r' ?_⟩
    rw [← rho_exact h' hc hr]; exact paySum_sups_mono hle p r'

theorem rho_congr {V : VCtx} {cost : Pid → Rat} {b b' : Nat → Rat} (heq : ∀ i ∈ V.vs, b i = b' i)
    (p : Pid) : rho V cost b p = rho V cost b' p := by
  have : sups V b p = sups V b' p :=
    List.map_congr_left fun i hi => by rw [heq i (mem_supporters.mp hi).1]
  unfold rho; rw [this]

/-- `cost / total_sat ≤ ρ`: everybody pays at most `ρ·u`, so `cost ≤ ρ · total_sat` -/
theorem initAff_le {V : VCtx} {cost : Pid → Rat} {b : Nat → Rat} {p : Pid} {r : Rat}
    (h : VOK V b) (hc : 0 < cost p) (hts : 0 < totalSat V p) (hr : rho V cost b p = some r) :
    cost p / totalSat V p ≤ r := by
  rw [div_le_iff₀ hts, ← rho_exact h hc hr, ← utilSum_sups V b p]
  exact paySum_le_mul r _

/-! ### The binary-satisfaction shortcut -/

theorem allSame_spec {V : VCtx} {p : Pid} (h : allSame V p = true) :
    ∀ i ∈ supporters V p, V.u i p = firstU V p :=
  fun i hi => of_decide_eq_true (List.all_eq_true.mp h i hi)

theorem rhoBinary_eq_rho {V : VCtx} (cost : Pid → Rat) (b : Nat → Rat) {p : Pid}
    (h : allSame V p = true) : rhoBinary V cost b p = rho V cost b p := by
  have hmap : (sortLe ratioLe (sups V b p)).map (fun s => (⟨s.b, firstU V p, s.m⟩ : Sup)) =
      sortLe ratioLe (sups V b p) := by
    refine (List.map_congr_left fun s hs => ?_).trans (List.map_id _)
    obtain ⟨i, hi, rfl⟩ := List.mem_map.mp ((mem_sortLe _).mp hs)
    rw [id, allSame_spec h i hi]
  unfold rhoBinary rho
  rw [hmap]

theorem shortcut_allSame {V : VCtx} {bin : Bool} {p : Pid} (h : (bin && allSame V p) = true) :
    allSame V p = true := (Bool.and_eq_true _ _ ▸ h).2

theorem price_eq_rho (V : VCtx) (cost : Pid → Rat) (bin : Bool) (b : Nat → Rat) (p : Pid) :
    price V cost bin b p = rho V cost b p := by
  unfold price
  split
  · exact rhoBinary_eq_rho cost b (shortcut_allSame ‹_›)
  · rfl

theorem satOf_supporter {V : VCtx} (bin : Bool) {p : Pid} {i : Nat} (hi : i ∈ supporters V p) :
    satOf V bin p i = V.u i p := by
  unfold satOf
  split
  · exact (allSame_spec (shortcut_allSame ‹_›) i hi).symm
  · rfl

theorem payL_eq_pay {V : VCtx} (bin : Bool) (b : Nat → Rat) (t : Pid) (r : Rat) {i : Nat}
    (hi : i ∈ V.vs) : payL V bin b t r i = pay V b t r i := by
  unfold payL pay
  split
  · rw [satOf_supporter bin (mem_supporters.mpr ⟨hi, ‹_›⟩)]
  · rfl

/-! ### The loop body, case by case -/

theorem improves_true {r : Rat} {o : Option Rat} :
    improves r o = true ↔ ∀ bb, o = some bb → r < bb := by
  cases o <;> simp [improves]

theorem exceeds_true {x : Rat} {o : Option Rat} :
    exceeds x o = true ↔ ∃ bb, o = some bb ∧ bb < x := by
  cases o <;> simp [exceeds]

theorem upd_self (aff : Pid → Rat) (p : Pid) (r : Rat) : upd aff p r p = r := if_pos rfl

theorem upd_ne (aff : Pid → Rat) {p q : Pid} (r : Rat) (h : q ≠ p) : upd aff p r q = aff q := if_neg h

theorem record_rest (a : Acc) (p : Pid) (r : Rat) : (record a p r).aff = upd a.aff p r ∧
    (record a p r).dropped = a.dropped ∧ (record a p r).stopped = a.stopped := by
  unfold record; split_ifs <;> exact ⟨rfl, rfl, rfl⟩

theorem record_aff (a : Acc) (p : Pid) (r : Rat) : (record a p r).aff = upd a.aff p r :=
  (record_rest a p r).1

theorem record_dropped (a : Acc) (p : Pid) (r : Rat) : (record a p r).dropped = a.dropped :=
  (record_rest a p r).2.1

theorem record_stopped (a : Acc) (p : Pid) (r : Rat) : (record a p r).stopped = a.stopped :=
  (record_rest a p r).2.2

variable {V : VCtx} {cost : Pid → Rat} {b : Nat → Rat} {aff0 : Pid → Rat}

theorem step_stopped (bin : Bool) (a : Acc) (p : Pid) (h : a.stopped = true) :
    step V cost bin b a p = a := if_pos h

theorem step_cases (bin : Bool) (P : Acc → Prop) (a : Acc) (p : Pid)
    (hstopped : a.stopped = true → P a)
    (hdrop : a.stopped = false → budSum (sups V b p) < cost p →
      P { a with dropped := a.dropped ++ [p] })
    (hbreak : a.stopped = false → ¬ budSum (sups V b p) < cost p →
      (∃ bb, a.best = some bb ∧ bb < a.aff p) → P { a with stopped := true })
    (hnone : a.stopped = false → ¬ budSum (sups V b p) < cost p →
      exceeds (a.aff p) a.best = false → rho V cost b p = none → P a)
    (hsome : a.stopped = false → ¬ budSum (sups V b p) < cost p →
      exceeds (a.aff p) a.best = false → ∀ r, rho V cost b p = some r → P (record a p r)) :
    P (step V cost bin b a p) := by
  cases hs : a.stopped with
  | true => rw [step_stopped bin a p hs]; exact hstopped hs
  | false =>
    rw [step, if_neg (by rw [hs]; exact Bool.false_ne_true)]
    by_cases hun : budSum (sups V b p) < cost p
    · rw [if_pos hun]; exact hdrop hs hun
    · rw [if_neg hun]
      cases he : exceeds (a.aff p) a.best with
      | true => rw [if_pos rfl]; exact hbreak hs hun (exceeds_true.mp he)
      | false =>
        rw [if_neg Bool.false_ne_true, price_eq_rho]
        cases hr : rho V cost b p with
        | none => exact hnone hs hun he hr
        | some r => exact hsome hs hun he r hr

theorem foldl_stopped (bin : Bool) (l : List Pid) (a : Acc) (h : a.stopped = true) :
    l.foldl (step V cost bin b) a = a :=
  foldl_invariant _ (· = a) (fun x p hx => by rw [hx]; exact step_stopped bin a p h) l a rfl

/-! ### The invariant of the lazy round -/

/-- state of the loop after the projects `pre` have been visited: `best` is the least true price
    over `pre`, `tied` its arg-min, only unaffordable projects were dropped, every stored value is
    the old one or the true price -/
structure ScanInv (V : VCtx) (cost : Pid → Rat) (b : Nat → Rat) (aff0 : Pid → Rat)
    (pre : List Pid) (a : Acc) : Prop where
  low : ∀ q ∈ pre, ∀ r, rho V cost b q = some r → ∃ y, a.best = some y ∧ y ≤ r
  wit : ∀ y, a.best = some y → ∃ q ∈ pre, rho V cost b q = some y
  tied : ∀ q, q ∈ a.tied ↔ q ∈ pre ∧ ∃ y, a.best = some y ∧ rho V cost b q = some y
  sub : a.tied.Sublist pre
  drop : ∀ q ∈ a.dropped, q ∈ pre ∧ rho V cost b q = none
  aff : ∀ q, a.aff q = aff0 q ∨ (q ∈ pre ∧ rho V cost b q = some (a.aff q))

/-- visiting further projects whose true price (if any) exceeds `best` changes nothing -/
theorem ScanInv.extend {pre : List Pid} {a : Acc} (h : ScanInv V cost b aff0 pre a) (a' : Acc)
    (extra : List Pid) (hb : a'.best = a.best) (ht : a'.tied = a.tied)
    (ha : ∀ q, a'.aff q = a.aff q ∨ (q ∈ extra ∧ rho V cost b q = some (a'.aff q)))
    (hd : ∀ q ∈ a'.dropped, q ∈ a.dropped ∨ (q ∈ extra ∧ rho V cost b q = none))
    (hex : ∀ q ∈ extra, ∀ r, rho V cost b q = some r → ∃ y, a.best = some y ∧ y < r) :
    ScanInv V cost b aff0 (pre ++ extra) a' := by
  refine ⟨?_, ?_, ?_, ?_, ?_, ?_⟩
  · intro q hq r hr
    rw [hb]
    rcases List.mem_append.mp hq with hq | hq
    · exact h.low q hq r hr
    · obtain ⟨y, hy, hlt⟩ := hex q hq r hr
      exact ⟨y, hy, le_of_lt hlt⟩
  · intro y hy
    obtain ⟨q, hq, hr⟩ := h.wit y (hb ▸ hy)
    exact ⟨q, List.mem_append_left _ hq, hr⟩
  · intro q
    rw [ht, hb, h.tied q]
    refine ⟨fun ⟨hq, hy⟩ => ⟨List.mem_append_left _ hq, hy⟩, fun ⟨hq, y, hy, hr⟩ => ?_⟩
    rcases List.mem_append.mp hq with hq | hq
    · exact ⟨hq, y, hy, hr⟩
    · obtain ⟨y', hy', hlt⟩ := hex q hq y hr
      rw [hy] at hy'; cases hy'; exact absurd hlt (lt_irrefl _)
  · rw [ht]; exact h.sub.trans (List.sublist_append_left _ _)
  · intro q hq
    rcases hd q hq with h1 | ⟨h1, h2⟩
    · exact ⟨List.mem_append_left _ (h.drop q h1).1, (h.drop q h1).2⟩
    · exact ⟨List.mem_append_right _ h1, h2⟩
  · intro q
    rcases ha q with h0 | ⟨h1, h2⟩
    · rw [h0]
      exact (h.aff q).imp_right fun h1 => ⟨List.mem_append_left _ h1.1, h1.2⟩
    · exact Or.inr ⟨List.mem_append_right _ h1, h2⟩

theorem ScanInv.record {pre : List Pid} {a : Acc} (h : ScanInv V cost b aff0 pre a) {p : Pid}
    {r : Rat} (hr : rho V cost b p = some r) :
    ScanInv V cost b aff0 (pre ++ [p]) (record a p r) := by
  have hp : p ∈ pre ++ [p] := List.mem_append_right _ (List.mem_singleton_self p)
  have hnew : ∀ {q}, q ∈ pre ++ [p] → q ∉ pre → q = p := fun hq hn =>
    List.mem_singleton.mp ((List.mem_append.mp hq).resolve_left hn)
  have haff : ∀ q, (MESLazy.record a p r).aff q = a.aff q ∨
      (q ∈ [p] ∧ rho V cost b q = some ((MESLazy.record a p r).aff q)) := by
    intro q
    rw [record_aff]
    by_cases hq : q = p
    · subst hq; rw [upd_self]; exact Or.inr ⟨List.mem_singleton_self q, hr⟩
    · exact Or.inl (upd_ne _ _ hq)
  have hdrop : ∀ q ∈ (MESLazy.record a p r).dropped, q ∈ pre ++ [p] ∧ rho V cost b q = none := by
    rw [record_dropped]
    exact fun q hq => ⟨List.mem_append_left _ (h.drop q hq).1, (h.drop q hq).2⟩
  have haff' : ∀ q, (MESLazy.record a p r).aff q = aff0 q ∨
      (q ∈ pre ++ [p] ∧ rho V cost b q = some ((MESLazy.record a p r).aff q)) := by
    intro q
    rcases haff q with h0 | ⟨h1, h2⟩
    · rw [h0]; exact (h.aff q).imp_right fun h1 => ⟨List.mem_append_left _ h1.1, h1.2⟩
    · exact Or.inr ⟨List.mem_append_right _ h1, h2⟩
  -- the fields `low` and `wit` once `r` is the best price and at most the old one
  have hmin : (MESLazy.record a p r).best = some r → (∀ y, a.best = some y → r ≤ y) →
      (∀ q ∈ pre ++ [p], ∀ r', rho V cost b q = some r' →
        ∃ y, (MESLazy.record a p r).best = some y ∧ y ≤ r') ∧
      ∀ y, (MESLazy.record a p r).best = some y → ∃ q ∈ pre ++ [p], rho V cost b q = some y := by
    intro hbest hle
    refine ⟨fun q hq r' hr' => ⟨r, hbest, ?_⟩, fun y hy => ?_⟩
    · by_cases hqp : q ∈ pre
      · obtain ⟨y, hy, hle'⟩ := h.low q hqp r' hr'
        exact (hle y hy).trans hle'
      · rw [hnew hq hqp, hr] at hr'; cases hr'; exact le_refl _
    · rw [hbest] at hy; cases hy
      exact ⟨p, hp, hr⟩
  by_cases h1 : improves r a.best = true
  · -- a new strict minimum: `p` alone is tied
    have himp := improves_true.mp h1
    have hbest : (MESLazy.record a p r).best = some r := by unfold MESLazy.record; rw [if_pos h1]
    have htied : (MESLazy.record a p r).tied = [p] := by unfold MESLazy.record; rw [if_pos h1]
    obtain ⟨hlow, hwit⟩ := hmin hbest fun y hy => (himp y hy).le
    refine ⟨hlow, hwit, fun q => ?_, ?_, hdrop, haff'⟩
    · rw [htied, hbest, List.mem_singleton]
      refine ⟨fun hq => hq.symm ▸ ⟨hp, r, rfl, hr⟩, fun ⟨hq, y, hy, hry⟩ => ?_⟩
      cases hy
      by_contra hqp
      have hqpre : q ∈ pre := (List.mem_append.mp hq).resolve_right (mt List.mem_singleton.mp hqp)
      obtain ⟨y', hy', hle⟩ := h.low q hqpre _ hry
      exact absurd (himp y' hy') (not_lt.mpr hle)
    · rw [htied]; exact List.sublist_append_right _ _
  · by_cases h2 : a.best = some r
    · -- the minimum is attained once more: `p` joins the tied projects
      have hrec : MESLazy.record a p r = { a with aff := upd a.aff p r, tied := a.tied ++ [p] } := by
        unfold MESLazy.record; rw [if_neg h1, if_pos h2]
      have hbest : (MESLazy.record a p r).best = some r := by rw [hrec]; exact h2
      have htied : (MESLazy.record a p r).tied = a.tied ++ [p] := by rw [hrec]
      obtain ⟨hlow, hwit⟩ := hmin hbest fun y hy => by rw [h2] at hy; cases hy; exact le_refl _
      refine ⟨hlow, hwit, fun q => ?_, ?_, hdrop, haff'⟩
      · rw [htied, hbest, List.mem_append, h.tied q, h2, List.mem_singleton]
        constructor
        · rintro (⟨hq, hy⟩ | rfl)
          · exact ⟨List.mem_append_left _ hq, hy⟩
          · exact ⟨hp, r, rfl, hr⟩
        · rintro ⟨hq, hy⟩
          by_cases hqp : q ∈ pre
          · exact Or.inl ⟨hqp, hy⟩
          · exact Or.inr (hnew hq hqp)
      · rw [htied]; exact List.Sublist.append h.sub (List.Sublist.refl _)
    · -- `best` is some `bb < r`: nothing but the stored value changes
      have hrec : MESLazy.record a p r = { a with aff := upd a.aff p r } := by
        unfold MESLazy.record; rw [if_neg h1, if_neg h2]
      refine h.extend _ [p] (by rw [hrec]) (by rw [hrec]) haff
        (fun q hq => Or.inl (record_dropped a p r ▸ hq)) fun q hq r' hr' => ?_
      rw [List.mem_singleton.mp hq, hr] at hr'; cases hr'
      cases hb : a.best with
      | none => exact absurd (improves_true.mpr fun bb h' => by rw [hb] at h'; cases h') h1
      | some bb =>
        refine ⟨bb, rfl, lt_of_le_of_ne (not_lt.mp fun hlt => h1 (improves_true.mpr ?_))
          fun e => h2 (hb.trans (congrArg some e))⟩
        intro bb' h'; rw [hb] at h'; cases h'; exact hlt

theorem step_inv (bin : Bool) {pre : List Pid} {a : Acc} (h : ScanInv V cost b aff0 pre a)
    (hs : a.stopped = false) (p : Pid) :
    (ScanInv V cost b aff0 (pre ++ [p]) (step V cost bin b a p) ∧
        (step V cost bin b a p).stopped = false ∧
        ∀ q, q ≠ p → (step V cost bin b a p).aff q = a.aff q) ∨
      (step V cost bin b a p = { a with stopped := true } ∧ ∃ bb, a.best = some bb ∧ bb < a.aff p) := by
  have honly : ∀ {q r}, q ∈ [p] → rho V cost b q = some r → rho V cost b p = some r :=
    fun hq hr => List.mem_singleton.mp hq ▸ hr
  refine step_cases bin (fun a' => (ScanInv V cost b aff0 (pre ++ [p]) a' ∧ a'.stopped = false ∧
      ∀ q, q ≠ p → a'.aff q = a.aff q) ∨
    (a' = { a with stopped := true } ∧ ∃ bb, a.best = some bb ∧ bb < a.aff p)) a p ?_ ?_ ?_ ?_ ?_
  · intro h'; rw [hs] at h'; cases h'
  · intro _ hun
    refine Or.inl ⟨h.extend _ [p] rfl rfl (fun q => Or.inl rfl) (fun q hq => ?_) fun q hq r hr => ?_,
      hs, fun _ _ => rfl⟩
    · exact (List.mem_append.mp hq).imp_right fun hq => ⟨hq, List.mem_singleton.mp hq ▸ rho_of_lt hun⟩
    · have := honly hq hr; rw [rho_of_lt hun] at this; cases this
  · exact fun _ _ hbb => Or.inr ⟨rfl, hbb⟩
  · intro _ _ _ hr
    refine Or.inl ⟨h.extend _ [p] rfl rfl (fun q => Or.inl rfl) (fun q hq => Or.inl hq)
      fun q hq r' hr' => ?_, hs, fun _ _ => rfl⟩
    have := honly hq hr'; rw [hr] at this; cases this
  · intro _ _ _ r hr
    exact Or.inl ⟨h.record hr, (record_stopped a p r).trans hs,
      fun q hq => by rw [record_aff, upd_ne _ _ hq]⟩

theorem fold_inv (bin : Bool) (l : List Pid) : ∀ (pre : List Pid) (a : Acc),
    ScanInv V cost b aff0 pre a →
    a.stopped = false → l.Nodup → l.Pairwise (fun x y => aff0 x ≤ aff0 y) →
    (∀ q ∈ l, a.aff q = aff0 q) → (∀ q ∈ l, ∀ r, rho V cost b q = some r → aff0 q ≤ r) →
    ScanInv V cost b aff0 (pre ++ l) (l.foldl (step V cost bin b) a) := by
  induction l with
  | nil => intro pre a h _ _ _ _ _; rwa [List.append_nil]
  | cons p rest ih =>
    intro pre a h hs hnd hsorted hfresh hstale
    rw [List.foldl_cons]
    obtain ⟨hp, hnd'⟩ := List.nodup_cons.mp hnd
    obtain ⟨hsp, hsorted'⟩ := List.pairwise_cons.mp hsorted
    rcases step_inv bin h hs p with ⟨h1, h2, h3⟩ | ⟨h1, bb, hbb, hlt⟩
    · have := ih (pre ++ [p]) _ h1 h2 hnd' hsorted'
        (fun q hq => (h3 q fun e => hp (e ▸ hq)).trans (hfresh q (List.mem_cons_of_mem _ hq)))
        (fun q hq => hstale q (List.mem_cons_of_mem _ hq))
      rwa [List.append_assoc] at this
    · -- everything from `p` on has a stored value, hence a true price, above `best`
      rw [h1, foldl_stopped bin rest _ rfl]
      refine h.extend _ (p :: rest) rfl rfl (fun q => Or.inl rfl) (fun q hq => Or.inl hq)
        fun q hq r hr => ⟨bb, hbb, ?_⟩
      have h4 : aff0 p ≤ aff0 q := by
        rcases List.mem_cons.mp hq with rfl | hq'
        exacts [le_refl _, hsp q hq']
      rw [hfresh p List.mem_cons_self] at hlt
      exact lt_of_lt_of_le hlt (h4.trans (hstale q hq r hr))

theorem scanInv_acc0 (s : LState) : ScanInv V cost s.b s.aff [] (acc0 s) :=
  ⟨fun _ hq => absurd hq List.not_mem_nil, fun y hy => absurd hy.symm (Option.some_ne_none y),
    fun _ => ⟨fun hq => absurd hq List.not_mem_nil, fun hq => hq.1⟩, List.Sublist.slnil,
    fun _ hq => absurd hq List.not_mem_nil, fun _ => Or.inl rfl⟩

theorem mem_visit {s : LState} {q : Pid} : q ∈ visit s ↔ q ∈ s.pool := (sortKey_perm _ _).mem_iff

theorem scan_inv (bin : Bool) (s : LState) (hnd : s.pool.Nodup)
    (hstale : ∀ q ∈ s.pool, ∀ r, rho V cost s.b q = some r → s.aff q ≤ r) :
    ScanInv V cost s.b s.aff (visit s) (scan V cost bin s) := by
  have := fold_inv (V := V) (cost := cost) (b := s.b) (aff0 := s.aff) bin (visit s) [] (acc0 s)
    (scanInv_acc0 s) rfl ((sortKey_perm _ _).nodup_iff.mpr hnd) (sortKey_sorted _ _)
    (fun _ _ => rfl) (fun q hq => hstale q (mem_visit.mp hq))
  rwa [List.nil_append] at this

/-! ### The relation between lazy and eager states -/

/-- `Rel ls s`: the lazy state `ls` and the eager state `s` hold the same money and the same
    allocation; the lazy pool is the eager pool minus projects that have no price (and, money only
    decreasing, never will); every stored affordability is a lower bound of the true price; the
    eager state satisfies the money invariant -/
structure Rel (V : VCtx) (cost : Pid → Rat) (B : Rat) (ls : LState) (s : State) : Prop where
  bud : ∀ i ∈ V.vs, ls.b i = s.b i
  alloc : ls.alloc = s.alloc
  sub : ∀ q ∈ ls.pool, q ∈ s.pool
  gone : ∀ q ∈ s.pool, q ∉ ls.pool → rho V cost s.b q = none
  lnodup : ls.pool.Nodup
  nodup : s.pool.Nodup
  inv : Inv V cost B s
  stale : ∀ p ∈ ls.pool, ∀ r, rho V cost ls.b p = some r → ls.aff p ≤ r

theorem scan_argmin (bin : Bool) {ls : LState} {s : State} (hbud : ∀ i ∈ V.vs, ls.b i = s.b i)
    (hsub : ∀ q ∈ ls.pool, q ∈ s.pool)
    (hgone : ∀ q ∈ s.pool, q ∉ ls.pool → rho V cost s.b q = none) (hnd : ls.pool.Nodup)
    (hstale : ∀ p ∈ ls.pool, ∀ r, rho V cost ls.b p = some r → ls.aff p ≤ r) :
    best V cost s = (scan V cost bin ls).best ∧
      ∀ q, q ∈ tiedLazy V cost bin ls ↔ q ∈ tied V cost s := by
  have hI := scan_inv (V := V) (cost := cost) bin ls hnd hstale
  have hrho : ∀ p, rho V cost ls.b p = rho V cost s.b p := rho_congr hbud
  -- the projects of the eager pool that have a price are in the lazy pool
  have hin : ∀ {q r}, q ∈ s.pool → rho V cost s.b q = some r → q ∈ visit ls := fun {q r} hq hr =>
    mem_visit.mpr (by_contra fun hql => by rw [hgone q hq hql] at hr; cases hr)
  have hbest : best V cost s = (scan V cost bin ls).best := by
    cases hb : (scan V cost bin ls).best with
    | none =>
      refine best_eq_none_iff.mpr fun q hq => ?_
      cases hr : rho V cost s.b q with
      | none => rfl
      | some r =>
        obtain ⟨y, hy, _⟩ := hI.low q (hin hq hr) r (hrho q ▸ hr)
        rw [hb] at hy; cases hy
    | some y =>
      obtain ⟨q, hq, hr⟩ := hI.wit y hb
      refine best_eq_some_iff.mpr ⟨⟨q, hsub q (mem_visit.mp hq), hrho q ▸ hr⟩, fun q' hq' r' hr' => ?_⟩
      obtain ⟨y', hy', hle⟩ := hI.low q' (hin hq' hr') r' (hrho q' ▸ hr')
      rw [hb] at hy'; cases hy'; exact hle
  refine ⟨hbest, fun q => ?_⟩
  rw [tiedLazy, hI.tied q, mem_tied_best, hbest, hrho]
  exact ⟨fun ⟨hq, y, hy, hr⟩ => ⟨hsub q (mem_visit.mp hq), y, hr, hy⟩,
    fun ⟨hq, y, hr, hy⟩ => ⟨hin hq hr, y, hy, hr⟩⟩

theorem tiedLazy_nodup (bin : Bool) {ls : LState} (hnd : ls.pool.Nodup)
    (hstale : ∀ p ∈ ls.pool, ∀ r, rho V cost ls.b p = some r → ls.aff p ≤ r) :
    (tiedLazy V cost bin ls).Nodup :=
  (scan_inv (V := V) (cost := cost) bin ls hnd hstale).sub.nodup
    ((sortKey_perm _ _).nodup_iff.mpr hnd)

section
variable {B : Rat} {ls : LState} {s : State}

theorem Rel.best_eq (h : Rel V cost B ls s) (bin : Bool) :
    best V cost s = (scan V cost bin ls).best :=
  (scan_argmin bin h.bud h.sub h.gone h.lnodup h.stale).1

theorem Rel.mem_tied (h : Rel V cost B ls s) (bin : Bool)
    (q : Pid) : q ∈ tiedLazy V cost bin ls ↔ q ∈ tied V cost s :=
  (scan_argmin bin h.bud h.sub h.gone h.lnodup h.stale).2 q

theorem Rel.tied_perm (h : Rel V cost B ls s) (bin : Bool) :
    (tiedLazy V cost bin ls).Perm (tied V cost s) :=
  (List.perm_ext_iff_of_nodup (tiedLazy_nodup bin h.lnodup h.stale) (tied_nodup h.nodup)).mpr
    (h.mem_tied bin)

end

theorem buyLazy_some (bin : Bool) {s : LState} {r : Rat} (h : (scan V cost bin s).best = some r)
    (t : Pid) : buyLazy V cost bin s t =
      { b := fun i => s.b i - payL V bin s.b t r i
        pool := (poolAfter s (scan V cost bin s)).filter (fun q => q != t)
        alloc := s.alloc ++ [t]
        aff := (scan V cost bin s).aff } := by
  unfold buyLazy; rw [h]

theorem buyLazy_pool (bin : Bool) (s : LState) (t : Pid) : (buyLazy V cost bin s t).pool =
    (poolAfter s (scan V cost bin s)).filter (fun q => q != t) := by
  unfold buyLazy; split <;> rfl

theorem buyLazy_aff (bin : Bool) (s : LState) (t : Pid) :
    (buyLazy V cost bin s t).aff = (scan V cost bin s).aff := by
  unfold buyLazy; split <;> rfl

theorem mem_poolAfter {s : LState} {a : Acc} {q : Pid} :
    q ∈ poolAfter s a ↔ q ∈ s.pool ∧ q ∉ a.dropped := by
  unfold poolAfter; simp

theorem Rel.buy {B : Rat} (hm : ∀ i ∈ V.vs, 1 ≤ V.m i) {ls : LState} {s : State}
    (h : Rel V cost B ls s) (bin : Bool) {t : Pid} (ht : t ∈ tied V cost s) :
    Rel V cost B (buyLazy V cost bin ls t) (MES.buy V cost s t) := by
  have hI := scan_inv (V := V) (cost := cost) bin ls h.lnodup h.stale
  obtain ⟨r, hr, hbest⟩ := tied_rho ht
  have hinv' := buy_inv hm ht h.inv
  have hok : VOK V s.b := ⟨h.inv.nonneg, hm⟩
  have hrpos : 0 < r := rho_pos hok (h.inv.pool_pos t (tied_sub_pool ht)) hr
  have hbl := buyLazy_some bin ((h.best_eq bin).symm.trans hbest) t
  have hbud : ∀ i ∈ V.vs, (buyLazy V cost bin ls t).b i = (MES.buy V cost s t).b i := by
    intro i hi
    rw [hbl, buy_some hr]
    simp only
    rw [payL_eq_pay bin ls.b t r hi, pay, pay, h.bud i hi]
  have hle : ∀ i ∈ V.vs, (MES.buy V cost s t).b i ≤ s.b i := by
    intro i hi
    rw [buy_some hr]
    exact sub_le_self _ (pay_nonneg V s.b t r i (h.inv.nonneg i hi) hrpos.le)
  have hpool := buyLazy_pool (V := V) (cost := cost) bin ls t
  refine ⟨hbud, ?_, ?_, ?_, ?_, ?_, hinv', ?_⟩
  · rw [hbl, buy_some hr, h.alloc]
  · intro q hq
    rw [hpool] at hq
    rw [buy_pool]
    have hq' := List.mem_filter.mp hq
    exact List.mem_filter.mpr ⟨h.sub q (mem_poolAfter.mp hq'.1).1, hq'.2⟩
  · intro q hq hnl
    rw [buy_pool] at hq
    have hq' := List.mem_filter.mp hq
    refine rho_none_mono hok hle (h.inv.pool_pos q hq'.1) ?_
    by_cases hql : q ∈ ls.pool
    · by_cases hd : q ∈ (scan V cost bin ls).dropped
      · rw [← rho_congr h.bud]; exact (hI.drop q hd).2
      · exact absurd (hpool ▸ List.mem_filter.mpr ⟨mem_poolAfter.mpr ⟨hql, hd⟩, hq'.2⟩) hnl
    · exact h.gone q hq'.1 hql
  · rw [hpool]; unfold poolAfter; exact (h.lnodup.filter _).filter _
  · rw [buy_pool]; exact h.nodup.filter _
  · intro p hp r' hr'
    rw [hpool] at hp
    have hpl : p ∈ ls.pool := (mem_poolAfter.mp (List.mem_filter.mp hp).1).1
    obtain ⟨r0, hr0, hle0⟩ := rho_mono (b := ls.b)
      ⟨fun i hi => h.bud i hi ▸ h.inv.nonneg i hi, hm⟩
      ⟨fun i hi => hbud i hi ▸ hinv'.nonneg i hi, hm⟩
      (fun i hi => by rw [hbud i hi, h.bud i hi]; exact hle i hi)
      (h.inv.pool_pos p (h.sub p hpl)) hr'
    rw [buyLazy_aff]
    rcases hI.aff p with h1 | ⟨_, h2⟩
    · rw [h1]; exact le_trans (h.stale p hpl r0 hr0) hle0
    · rw [hr0] at h2; cases h2; exact hle0

/-- the lazy rounds simulate the eager ones along `Rel` -/
theorem sim {B : Rat} (hm : ∀ i ∈ V.vs, 1 ≤ V.m i) (bin : Bool) :
    (rule V cost).Sim (ruleLazy V cost bin) (fun s s' => Rel V cost B s' s) :=
  ⟨fun _ _ h => h.alloc, fun _ _ h => h.tied_perm bin,
    fun s _ t h ht => rule_buy V cost s t ▸ h.buy hm bin ht⟩

theorem initStateL_stale (V : VCtx) (I : Inst) (init : List Pid) (b0 : Rat) (hb0 : 0 ≤ b0)
    (hm : ∀ i ∈ V.vs, 1 ≤ V.m i) : ∀ p ∈ (initStateL V I init b0).pool, ∀ r,
      rho V I.cost (initStateL V I init b0).b p = some r → (initStateL V I init b0).aff p ≤ r := by
  intro p hp r hr
  have hp' := mem_initPool.mp hp
  exact initAff_le (V := V) (cost := I.cost) (b := fun _ => b0) ⟨fun _ _ => hb0, hm⟩
    hp'.2.2.2 hp'.2.2.1 hr

theorem rel_init (V : VCtx) (I : Inst) (init : List Pid) (b0 : Rat) (hb0 : 0 ≤ b0)
    (hm : ∀ i ∈ V.vs, 1 ≤ V.m i) (hproj : I.projects.Nodup)
    (hcost : ∀ p ∈ I.projects, 0 ≤ I.cost p) :
    Rel V I.cost (total V I init b0) (initStateL V I init b0) (initState V I init b0) :=
  have hnd := initPool_nodup V init hproj
  ⟨fun _ _ => rfl, rfl, fun _ h => h, fun _ hq hn => absurd hq hn, hnd, hnd,
    initState_inv V I init b0 hb0 hcost, initStateL_stale V I init b0 hb0 hm⟩

/-! ### Whole runs -/

theorem runAtLazy_eq_runAt (V : VCtx) (I : Inst) (init : List Pid) (bin : Bool) (b0 : Rat)
    (hb0 : 0 ≤ b0) (hm : ∀ i ∈ V.vs, 1 ≤ V.m i) (hproj : I.projects.Nodup)
    (hcost : ∀ p ∈ I.projects, 0 ≤ I.cost p) (order : List Pid → Except Err (List Pid))
    (hperm : ∀ l₁ l₂ : List Pid, l₁.Perm l₂ → order l₁ = order l₂)
    (hmem : ∀ T l, order T = .ok l → ∀ x ∈ l, x ∈ T) :
    runAtLazy V I init order bin b0 = runAt V I init order b0 ∧
      runAllAtLazy V I init order bin b0 = runAllAt V I init order b0 := by
  have hrel := rel_init V I init b0 hb0 hm hproj hcost
  have ho := IsTieOrder.orderIfTie ⟨hmem, hperm⟩
  refine ⟨(sim hm bin).run ho _ _ _ hrel, ?_⟩
  unfold runAllAtLazy runAllAt
  rw [(sim hm bin).runAll ho _ _ _ hrel]

theorem iteratedLazy_eq_iterated (V : VCtx) (I : Inst) (init : List Pid) (bin : Bool)
    (hm : ∀ i ∈ V.vs, 1 ≤ V.m i) (hproj : I.projects.Nodup)
    (hcost : ∀ p ∈ I.projects, 0 ≤ I.cost p) (order : List Pid → Except Err (List Pid))
    (hperm : ∀ l₁ l₂ : List Pid, l₁.Perm l₂ → order l₁ = order l₂)
    (hmem : ∀ T l, order T = .ok l → ∀ x ∈ l, x ∈ T) (inc : Rat) (hinc : 0 ≤ inc) :
    ∀ (fuel : Nat) (b0 : Rat), 0 ≤ b0 →
      (∀ prev, iteratedLazy V I init order bin inc fuel b0 prev =
        iterated V I init order inc fuel b0 prev) ∧
      (∀ prev, iteratedAllLazy V I init order bin inc fuel b0 prev =
        iteratedAll V I init order inc fuel b0 prev) := by
  intro fuel
  induction fuel with
  | zero => intro b0 _; exact ⟨fun _ => rfl, fun _ => rfl⟩
  | succ f ih =>
    intro b0 hb0
    obtain ⟨h1, h2⟩ := runAtLazy_eq_runAt V I init bin b0 hb0 hm hproj hcost order hperm hmem
    have hnext := ih (b0 + inc) (add_nonneg hb0 hinc)
    constructor
    · intro prev
      rw [iteratedLazy, iterated, h1]
      cases runAt V I init order b0 with
      | error e => rfl
      | ok W => simp only [hnext.1 W]
    · intro prev
      rw [iteratedAllLazy, iteratedAll, h2]
      cases runAllAt V I init order b0 with
      | error e => rfl
      | ok Ws => simp only [hnext.2 Ws]

end MESLazy
end Pabu
