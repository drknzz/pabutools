/-
  C12 (relaxations) — `validate_price_system(..., stable=True, relaxation=R)` with the five relaxations of
  pabutools/analysis/priceability_relaxation.py.  The relaxation replaces the cost on the right-hand side of the
  stability condition S5 by a relaxed cost `rc c` (`MinMul`: cost·β, `MinAdd`: cost+β, `MinAddVector(Positive)`:
  cost+β_c, `MinAddOffset`: cost+β+β_c) and nothing else.
  * with the neutral β (1, 0, ≡0) the relaxed validator IS the validator;
  * a larger relaxed cost accepts more (monotonicity), on the definition and on the validator;
  * a non-positive additive β / a multiplicative β ≤ 1 gives a stable, hence plain, price system;
  * the relaxed validator accepts every exact relaxed price system and rejects one broken by more than a cent.
  (That the β returned by the MIP search is the optimum is proved under a hypothesis on the solver in
  Properties/C12MIPRelax.lean, `relaxed_optimum_spec`; CBC's answer is compared with an exact rational LP oracle by the harness.)
-/
import PabuProofs.Properties.C12
namespace Pabu.Price

/-! ### the neutral relaxation -/

theorem validateRelaxed_congr (X : Input) (rc rc' : Pid → Rat) (stable exhaustive : Bool)
    (h : ∀ c ∈ X.NW, rc c = rc' c) : validateRelaxed X rc stable exhaustive = validateRelaxed X rc' stable exhaustive := by
  unfold validateRelaxed
  rw [s5R_congr X rc rc' h]

theorem exactRelaxed_congr (X : Input) (rc rc' : Pid → Rat) (stable exhaustive : Bool)
    (h : ∀ c ∈ X.NW, rc c = rc' c) : exactRelaxed X rc stable exhaustive = exactRelaxed X rc' stable exhaustive := by
  unfold exactRelaxed
  rw [es5R_congr X rc rc' h]

theorem validateRelaxed_eq_validate (X : Input) (rc : Pid → Rat) (stable exhaustive : Bool)
    (h : ∀ c ∈ X.NW, rc c = X.cost c) : validateRelaxed X rc stable exhaustive = validate X stable exhaustive := by
  rw [validateRelaxed_congr X rc X.cost stable exhaustive h]
  rfl

theorem exactRelaxed_eq_exact (X : Input) (rc : Pid → Rat) (stable exhaustive : Bool)
    (h : ∀ c ∈ X.NW, rc c = X.cost c) : exactRelaxed X rc stable exhaustive = exact X stable exhaustive := by
  rw [exactRelaxed_congr X rc X.cost stable exhaustive h]
  rfl

theorem validateRelaxed_minMul_one (X : Input) (stable exhaustive : Bool) :
    validateRelaxed X (rcMinMul X.cost 1) stable exhaustive = validate X stable exhaustive :=
  validateRelaxed_eq_validate X _ stable exhaustive (fun c _ => by unfold rcMinMul; ring)

theorem validateRelaxed_minAdd_zero (X : Input) (stable exhaustive : Bool) :
    validateRelaxed X (rcMinAdd X.cost 0) stable exhaustive = validate X stable exhaustive :=
  validateRelaxed_eq_validate X _ stable exhaustive (fun c _ => by unfold rcMinAdd; ring)

/-- `MinAddVector` / `MinAddVectorPositive` with β ≡ 0 on the unselected projects -/
theorem validateRelaxed_minAddVector_zero (X : Input) (βv : Pid → Rat) (stable exhaustive : Bool)
    (h : ∀ c ∈ X.NW, βv c = 0) :
    validateRelaxed X (rcMinAddVector X.cost βv) stable exhaustive = validate X stable exhaustive :=
  validateRelaxed_eq_validate X _ stable exhaustive (fun c hc => by unfold rcMinAddVector; rw [h c hc]; ring)

theorem validateRelaxed_minAddOffset_zero (X : Input) (βv : Pid → Rat) (stable exhaustive : Bool)
    (h : ∀ c ∈ X.NW, βv c = 0) :
    validateRelaxed X (rcMinAddOffset X.cost 0 βv) stable exhaustive = validate X stable exhaustive :=
  validateRelaxed_eq_validate X _ stable exhaustive (fun c hc => by unfold rcMinAddOffset; rw [h c hc]; ring)

/-- without `stable` the relaxation is not read at all (condition C5 keeps the true cost) -/
theorem validateRelaxed_plain (X : Input) (rc : Pid → Rat) (exhaustive : Bool) :
    validateRelaxed X rc false exhaustive = validate X false exhaustive := by
  -- not `rfl`: the unifier would first try to identify the two unread S5 branches, through `round2`
  unfold validateRelaxed validate
  rw [if_neg Bool.false_ne_true, if_neg Bool.false_ne_true]

/-! ### monotonicity -/

theorem exactRelaxed_mono (X : Input) (rc rc' : Pid → Rat) (stable exhaustive : Bool)
    (h : ∀ c ∈ X.NW, rc c ≤ rc' c) (E : ExactRelaxed X rc stable exhaustive) : ExactRelaxed X rc' stable exhaustive :=
  { feasible := E.feasible, exhaust := E.exhaust, approved := E.approved, nonneg := E.nonneg, within := E.within,
    selected := E.selected, unselected := E.unselected, noMoney := E.noMoney,
    stab := fun hs c hc => le_trans (E.stab hs c hc) (h c hc) }

theorem exactRelaxed_mono_bool (X : Input) (rc rc' : Pid → Rat) (stable exhaustive : Bool)
    (h : ∀ c ∈ X.NW, rc c ≤ rc' c) (E : exactRelaxed X rc stable exhaustive = true) :
    exactRelaxed X rc' stable exhaustive = true :=
  (exactRelaxed_iff X rc' stable exhaustive).mpr
    (exactRelaxed_mono X rc rc' stable exhaustive h ((exactRelaxed_iff X rc stable exhaustive).mp E))

theorem validateRelaxed_mono (X : Input) (rc rc' : Pid → Rat) (stable exhaustive : Bool)
    (h : ∀ c ∈ X.NW, rc c ≤ rc' c) (hv : validateRelaxed X rc stable exhaustive = true) :
    validateRelaxed X rc' stable exhaustive = true := by
  rw [validateRelaxed_iff] at hv ⊢
  obtain ⟨h0, hb, h1, hn, h2, h3, h4, h5, hs⟩ := hv
  exact ⟨h0, hb, h1, hn, h2, h3, h4, h5, fun hst c hc => le_trans (hs hst c hc) (add_le_add_left (h c hc) _)⟩

/-! ### a relaxation that does not relax -/

theorem stable_of_relaxed_le (X : Input) (rc : Pid → Rat) (exhaustive : Bool) (h : ∀ c ∈ X.NW, rc c ≤ X.cost c)
    (E : ExactRelaxed X rc true exhaustive) : Exact X true exhaustive :=
  (exactRelaxed_cost_iff X true exhaustive).mp (exactRelaxed_mono X rc X.cost true exhaustive h E)

theorem stable_of_relaxed_nonpos (X : Input) (β : Rat) (exhaustive : Bool) (hβ : β ≤ 0)
    (E : ExactRelaxed X (rcMinAdd X.cost β) true exhaustive) : Exact X true exhaustive :=
  stable_of_relaxed_le X _ exhaustive (fun c _ => by unfold rcMinAdd; linarith) E

theorem stable_of_relaxed_minMul (X : Input) (β : Rat) (exhaustive : Bool) (hβ : β ≤ 1)
    (hcost : ∀ c ∈ X.NW, 0 ≤ X.cost c) (E : ExactRelaxed X (rcMinMul X.cost β) true exhaustive) : Exact X true exhaustive :=
  stable_of_relaxed_le X _ exhaustive
    (fun c hc => by unfold rcMinMul; nlinarith [hcost c hc]) E

theorem stable_of_relaxed_minAddVector (X : Input) (βv : Pid → Rat) (exhaustive : Bool) (hβ : ∀ c ∈ X.NW, βv c ≤ 0)
    (E : ExactRelaxed X (rcMinAddVector X.cost βv) true exhaustive) : Exact X true exhaustive :=
  stable_of_relaxed_le X _ exhaustive (fun c hc => by unfold rcMinAddVector; linarith [hβ c hc]) E

theorem stable_of_relaxed_minAddOffset (X : Input) (β : Rat) (βv : Pid → Rat) (exhaustive : Bool)
    (hβ : ∀ c ∈ X.NW, β + βv c ≤ 0)
    (E : ExactRelaxed X (rcMinAddOffset X.cost β βv) true exhaustive) : Exact X true exhaustive :=
  stable_of_relaxed_le X _ exhaustive (fun c hc => by unfold rcMinAddOffset; linarith [hβ c hc]) E

theorem priceable_of_relaxed_nonpos (X : Input) (β : Rat) (exhaustive : Bool) (hβ : β ≤ 0)
    (E : ExactRelaxed X (rcMinAdd X.cost β) true exhaustive) : Exact X false exhaustive :=
  stable_implies_plain X exhaustive (stable_of_relaxed_nonpos X β exhaustive hβ E)

theorem priceable_of_relaxed_minMul (X : Input) (β : Rat) (exhaustive : Bool) (hβ : β ≤ 1)
    (hcost : ∀ c ∈ X.NW, 0 ≤ X.cost c) (E : ExactRelaxed X (rcMinMul X.cost β) true exhaustive) : Exact X false exhaustive :=
  stable_implies_plain X exhaustive (stable_of_relaxed_minMul X β exhaustive hβ hcost E)

/-- conversely a stable price system is stable for every relaxation that does not lower the costs
    (`MinMul` β ≥ 1, `MinAdd` β ≥ 0, `MinAddVectorPositive`, …) -/
theorem relaxed_of_stable (X : Input) (rc : Pid → Rat) (exhaustive : Bool) (h : ∀ c ∈ X.NW, X.cost c ≤ rc c)
    (E : Exact X true exhaustive) : ExactRelaxed X rc true exhaustive :=
  exactRelaxed_mono X X.cost rc true exhaustive h ((exactRelaxed_cost_iff X true exhaustive).mpr E)

/-! ### the relaxed validator against the relaxed definition -/

/-- completeness: a pair that meets every condition exactly (S5 with the relaxed costs) is accepted -/
theorem validateRelaxed_complete (X : Input) (rc : Pid → Rat) (stable exhaustive : Bool)
    (E : ExactRelaxed X rc stable exhaustive) : validateRelaxed X rc stable exhaustive = true := by
  have hadd {x y : Rat} (h : x ≤ y) : x ≤ y + 1 / 200 := le_trans h (le_add_of_nonneg_right (by norm_num))
  rw [validateRelaxed_iff]
  exact ⟨E.feasible, E.exhaust, E.approved,
    fun v hv c hc => le_trans (by norm_num) (E.nonneg v hv c hc),
    fun v hv => hadd (E.within v hv),
    fun c hc => by rw [E.selected c hc, sub_self, abs_zero]; norm_num,
    fun c hc => by rw [E.unselected c hc, abs_zero]; norm_num,
    fun hs c hc => hadd (E.noMoney hs c hc),
    fun hs c hc => hadd (E.stab hs c hc)⟩

theorem validateRelaxed_sound_gap (δ : Rat) (hδ : 1 / 100 < δ) (X : Input) (rc : Pid → Rat) (stable exhaustive : Bool)
    (B : BrokenByRelaxed δ X rc stable exhaustive) : validateRelaxed X rc stable exhaustive = false :=
  validateRelaxed_sound_half_cent δ (lt_trans (by norm_num) hδ) X rc stable exhaustive B

theorem validateRelaxed_sound_margin (X : Input) (rc : Pid → Rat) (stable exhaustive : Bool)
    (B : BrokenByRelaxed (1 / 10) X rc stable exhaustive) : validateRelaxed X rc stable exhaustive = false :=
  validateRelaxed_sound_gap (1 / 10) (by norm_num) X rc stable exhaustive B

/-! ### the hypotheses are satisfiable: the election of `exInput` (project 0 of cost 2 bought by both voters at 1 each,
     project 1 of cost 3 approved by the second voter, whose largest payment is 1) — the multiplicative relaxation
     β = 1/3 keeps the pair stable, β = 1/4 does not; the additive β = -2 keeps it stable -/

theorem exInput_minMul_third : ExactRelaxed (exInput 1 1 1) (rcMinMul (exInput 1 1 1).cost (1 / 3)) true true := by
  rw [← exactRelaxed_iff]; decide +kernel

theorem exInput_minMul_quarter_fails : ¬ ExactRelaxed (exInput 1 1 1) (rcMinMul (exInput 1 1 1).cost (1 / 4)) true true := by
  rw [← exactRelaxed_iff]; decide +kernel

theorem exInput_minAdd_minus_two : ExactRelaxed (exInput 1 1 1) (rcMinAdd (exInput 1 1 1).cost (-2)) true true := by
  rw [← exactRelaxed_iff]; decide +kernel

example : Exact (exInput 1 1 1) true true :=
  stable_of_relaxed_minMul _ (1 / 3) true (by norm_num) (fun c _ => by unfold exInput; dsimp only; split <;> norm_num)
    exInput_minMul_third

example : Exact (exInput 1 1 1) false true := priceable_of_relaxed_nonpos _ (-2) true (by norm_num) exInput_minAdd_minus_two

example : validateRelaxed (exInput 1 1 1) (rcMinMul (exInput 1 1 1).cost (1 / 3)) true true = true :=
  validateRelaxed_complete _ _ true true exInput_minMul_third

/-- the relaxed cost of project 1 lowered to 1/2 (MinAddVector with β₁ = -5/2): S5 is broken by 1/2 ≥ 1/10 -/
example : BrokenByRelaxed (1 / 10) (exInput 1 1 1) (rcMinAddVector (exInput 1 1 1).cost (fun c => if c = 1 then -5 / 2 else 0)) true true :=
  BrokenByRelaxed.s5 rfl ⟨1, by decide, by decide +kernel⟩

end Pabu.Price
