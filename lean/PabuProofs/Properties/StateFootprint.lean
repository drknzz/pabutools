/-
  StateFootprint — the library keeps no state that survives a call, apart from a reviewed list (C13, C20).
  Tables regenerated from the sources on every run: Gen.State (harness/translate_state.py).

  C13 says an outcome is a function of the election alone (calling twice, in any process history, gives the same
  answer) and C20 that reused objects answer like fresh copies.  Both are statements about histories; what can make an
  answer depend on the history is state that outlives a call: module-level or class-level containers, `global`
  rebinding, memoising decorators, mutable default arguments, and attributes written on `self` outside the
  constructors (lazy caches).  The theorems below are kernel-checked facts about the *current* sources: the first four
  kinds do not occur at all, and every write of the fifth kind is one of the reviewed ones listed here, each with the
  reason it cannot leak into an answer.
-/
import Gen.State
namespace Pabu.StateFootprint
open Pabu.Gen.State

/-- reviewed writes to attributes of `self` / the class outside constructors:
    * `_saved_beta` of the four relaxation classes: the documented result slot of a relaxation object the CALLER creates
      and passes to `priceable`; `priceable` overwrites it before any read (C12 runs the relaxed search on fresh and on
      reused relaxation objects);
    * `_wrap_methods` (`setattr(cls, …)`): class decoration executed once at import time, it installs the type-preserving
      wrappers of C17 and stores no data;
    * `AdditiveSatisfaction.scores[project]`: memo of `func(instance, profile, ballot, project, precomputed)`, all of which
      are fixed at construction of the measure object (a measure is bound to one ballot; C02–C04 run reused and
      in-place-extended satisfaction profiles against fresh ones);
    * `MESVoter.budget_over_sat_map[(project, budget)]`: keyed by the current budget, lives in a `MESVoter` created inside
      one call of the rule. -/
def reviewedSelfWrites : List (String × String × String × String × String) := [
  ("pabutools/analysis/priceability_relaxation.py", "MinAdd", "get_beta", "_saved_beta", "assign"),
  ("pabutools/analysis/priceability_relaxation.py", "MinAddOffset", "get_beta", "_saved_beta", "assign"),
  ("pabutools/analysis/priceability_relaxation.py", "MinAddVector", "get_beta", "_saved_beta", "assign"),
  ("pabutools/analysis/priceability_relaxation.py", "MinMul", "get_beta", "_saved_beta", "assign"),
  ("pabutools/election/ballot/approvalballot.py", "ApprovalBallot", "_wrap_methods", "method", "setattr"),
  ("pabutools/election/ballot/ballot.py", "FrozenBallot", "_wrap_methods", "name", "setattr"),
  ("pabutools/election/ballot/cardinalballot.py", "CardinalBallot", "_wrap_methods", "name", "setattr"),
  ("pabutools/election/ballot/cumulativeballot.py", "CumulativeBallot", "_wrap_methods", "name", "setattr"),
  ("pabutools/election/ballot/ordinalballot.py", "OrdinalBallot", "_wrap_methods", "name", "setattr"),
  ("pabutools/election/instance.py", "Instance", "_wrap_methods", "name", "setattr"),
  ("pabutools/election/profile/approvalprofile.py", "ApprovalMultiProfile", "_wrap_methods", "name", "setattr"),
  ("pabutools/election/profile/approvalprofile.py", "ApprovalProfile", "_wrap_methods", "name", "setattr"),
  ("pabutools/election/profile/cardinalprofile.py", "CardinalMultiProfile", "_wrap_methods", "name", "setattr"),
  ("pabutools/election/profile/cardinalprofile.py", "CardinalProfile", "_wrap_methods", "name", "setattr"),
  ("pabutools/election/profile/cumulativeprofile.py", "CumulativeMultiProfile", "_wrap_methods", "name", "setattr"),
  ("pabutools/election/profile/cumulativeprofile.py", "CumulativeProfile", "_wrap_methods", "name", "setattr"),
  ("pabutools/election/profile/ordinalprofile.py", "OrdinalMultiProfile", "_wrap_methods", "name", "setattr"),
  ("pabutools/election/profile/ordinalprofile.py", "OrdinalProfile", "_wrap_methods", "name", "setattr"),
  ("pabutools/election/satisfaction/additivesatisfaction.py", "AdditiveSatisfaction", "get_project_sat", "scores", "subscript"),
  ("pabutools/election/satisfaction/satisfactionprofile.py", "SatisfactionMultiProfile", "_wrap_methods", "name", "setattr"),
  ("pabutools/election/satisfaction/satisfactionprofile.py", "SatisfactionProfile", "_wrap_methods", "name", "setattr"),
  ("pabutools/rules/budgetallocation.py", "BudgetAllocation", "_wrap_methods", "method", "setattr"),
  ("pabutools/rules/mes/mes_rule.py", "MESVoter", "budget_over_sat_project", "budget_over_sat_map", "subscript")
]

theorem no_process_state : processState = [] := by decide
theorem no_global_rebinding : globalStmts = [] := by decide
theorem no_memo_decorators : memoDecorators = [] := by decide
theorem no_mutable_defaults : mutableDefaults = [] := by decide

/-- The regenerated table is the reviewed list entry for entry.  Stated as an equality because the kernel compares string
    literals as literals, while deciding `w ∈ reviewedSelfWrites` makes it UTF-8-encode every path it compares. -/
theorem selfWrites_eq_reviewed : selfWrites = reviewedSelfWrites := rfl

theorem self_writes_reviewed : ∀ w ∈ selfWrites, w ∈ reviewedSelfWrites :=
  fun _ h => selfWrites_eq_reviewed ▸ h

theorem footprint_clean :
    processState = [] ∧ globalStmts = [] ∧ memoDecorators = [] ∧ mutableDefaults = [] ∧
      ∀ w ∈ selfWrites, w ∈ reviewedSelfWrites :=
  ⟨no_process_state, no_global_rebinding, no_memo_decorators, no_mutable_defaults, self_writes_reviewed⟩

/-! sensitivity: a per-profile memo written by a query method, or a class-level cache, is NOT in the reviewed list -/
example : ("pabutools/election/profile/approvalprofile.py", "AbstractApprovalProfile", "approval_score", "_scores", "subscript")
    ∉ reviewedSelfWrites := by simp [reviewedSelfWrites]
example : ("pabutools/election/instance.py", "Instance", "get_project", "_name_index", "subscript") ∉ reviewedSelfWrites := by
  simp [reviewedSelfWrites]
example : selfWrites.length ≥ 20 := by decide

end Pabu.StateFootprint
